import CapyV.Props.C25
import CapyV.Props.C27
import CapyV.Props.C03
import CapyV.Props.C22
import CapyV.Props.C22Doc
import CapyV.Props.C23
import CapyV.Props.C23Loops
import CapyV.Props.C26
import CapyV.Props.C12
import CapyV.Props.C13
import CapyV.Props.C13Lit
import CapyV.Props.C24
import CapyV.Props.C20
import CapyV.Props.C07
import CapyV.Props.C01
import CapyV.Props.C01AggEq
import CapyV.Props.C01Order
import CapyV.Props.C10
import CapyV.Props.C28
import CapyV.Props.C05
import CapyV.Props.C08
import CapyV.Props.C14
import CapyV.Props.C14Fit
import CapyV.Props.C09
import CapyV.Props.C02
import CapyV.Props.C02Copy
import CapyV.Props.C15
import CapyV.Props.C11
import CapyV.Props.C06
import CapyV.Props.C04
import CapyV.Props.C04Widen
import CapyV.Props.C17
import CapyV.Props.C18
import CapyV.Props.C19
import CapyV.Props.C16
