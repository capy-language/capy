import CapyV.Proofs.Num
/-!
# C08 — integer operations and casts have exact two's-complement semantics

`numBinary` / `numUnary` / `castNum` (`CapyV.Model.Num`) transcribe `compile_num_binary`,
`Expr::Unary` and `cast_num` of the code generator, over Cranelift integer instructions
modelled as `BitVec w` functions. All statements are generic in the width `w`
(so they cover 8, 16, 32, 64, 128 and the pointer-sized types alike) and in the signedness.

Reading conventions:
* `valOf s v` — the integer the pattern `v` denotes when read as signed (`s = true`,
  two's complement) or unsigned;
* `wrap w s z` — the representative of `z` modulo `2^w` in the range of the type;
* `fits w s z` — `z` lies in the range of the type;
* `FVal` — a float abstracted to the integer it truncates to (or NaN/±∞); `fcvt_from_*`
  is "the float nearest to the integer value of the operand it is GIVEN", `fcvt_to_*_sat` is
  a clamp. Rounding to the nearest float is the CPU's; it is checked end to end.

`ty.float = false` restricts a statement to the integer-like types (`iN`, `uN`, `isize`,
`usize`, `bool`, `char`). `numBinary` and `numUnary` read `ty.float` and `ty.signed` only:
`ty.bits` is not tied to the width `w` of the operands. Division excludes a zero divisor and
`MIN / -1`, remainder a zero divisor; shifts require an amount below the width. At `w = 128`
`div_trunc` and `rem_trunc` describe instructions the x86-64 back end lacks (known finding).
-/
namespace CapyV.C08
open CapyV CapyV.Num

/-- `a + b` is the `w`-bit pattern of the exact sum: its value is the sum wrapped into the
type's range. -/
theorem add_wraps (ty : NumTy) (hf : ty.float = false) (a b : BitVec w) :
    ∃ r, numBinary .add ty a b = .val r ∧
      valOf ty.signed r = wrap w ty.signed (valOf ty.signed a + valOf ty.signed b) := by
  cases ty
  cases hf
  exact ⟨_, rfl, by rw [iadd_eq, valOf_ofInt]⟩

theorem sub_wraps (ty : NumTy) (hf : ty.float = false) (a b : BitVec w) :
    ∃ r, numBinary .sub ty a b = .val r ∧
      valOf ty.signed r = wrap w ty.signed (valOf ty.signed a - valOf ty.signed b) := by
  cases ty
  cases hf
  exact ⟨_, rfl, by rw [isub_eq, valOf_ofInt]⟩

theorem mul_wraps (ty : NumTy) (hf : ty.float = false) (a b : BitVec w) :
    ∃ r, numBinary .mul ty a b = .val r ∧
      valOf ty.signed r = wrap w ty.signed (valOf ty.signed a * valOf ty.signed b) := by
  cases ty
  cases hf
  exact ⟨_, rfl, by rw [imul_eq, valOf_ofInt]⟩

theorem neg_wraps (ty : NumTy) (hf : ty.float = false) (a : BitVec w) :
    ∃ r, numUnary .neg ty a = .val r ∧
      valOf ty.signed r = wrap w ty.signed (-valOf ty.signed a) := by
  cases ty
  cases hf
  exact ⟨_, rfl, by rw [ineg_eq, valOf_ofInt]⟩

/-- When the exact result is a value of the type, it is the result (no wrap happens). -/
theorem add_exact_when_fits (ty : NumTy) (hf : ty.float = false) (hw : 0 < w) (a b : BitVec w)
    (h : fits w ty.signed (valOf ty.signed a + valOf ty.signed b)) :
    ∃ r, numBinary .add ty a b = .val r ∧
      valOf ty.signed r = valOf ty.signed a + valOf ty.signed b := by
  obtain ⟨r, h1, h2⟩ := add_wraps ty hf a b
  exact ⟨r, h1, by rw [h2, wrap_of_fits hw _ h]⟩

/-- For a non-zero divisor and no signed overflow (`MIN / -1`), `a / b` is the quotient of the
operands' values truncated toward zero — signed or unsigned values according to the type. -/
theorem div_trunc (ty : NumTy) (hf : ty.float = false) (a b : BitVec w) (hb : b ≠ 0#w)
    (ho : ¬(ty.signed = true ∧ a = BitVec.intMin w ∧ b = BitVec.allOnes w)) :
    ∃ r, numBinary .div ty a b = .val r ∧
      valOf ty.signed r = (valOf ty.signed a).tdiv (valOf ty.signed b) := by
  obtain ⟨_, _, s⟩ := ty
  cases hf
  cases s
  · exact udiv_trunc a b hb
  · exact sdiv_trunc a b hb fun h => ho ⟨rfl, h⟩

/-- `a % b` is the remainder of truncating division (sign of the dividend). -/
theorem rem_trunc (ty : NumTy) (hf : ty.float = false) (a b : BitVec w) (hb : b ≠ 0#w) :
    ∃ r, numBinary .mod ty a b = .val r ∧
      valOf ty.signed r = (valOf ty.signed a).tmod (valOf ty.signed b) := by
  obtain ⟨_, _, s⟩ := ty
  cases hf
  cases s
  · exact urem_trunc a b hb
  · exact srem_trunc a b hb

/-- What the excluded zero divisor does: the generated `div`/`idiv` faults (`MIN / -1`: see the
examples). -/
theorem div_by_zero_traps (ty : NumTy) (hf : ty.float = false) (a : BitVec w) :
    numBinary .div ty a 0#w = .trap ∧ numBinary .mod ty a 0#w = .trap := by
  cases hs : ty.signed <;> simp [numBinary, hf, hs, sdiv, udiv, srem, urem]

/-- Bit `i` of `a & b`, `a | b`, `a ~ b` (xor) and `~a` is the corresponding Boolean function of
bit `i` of the operands. -/
theorem bitwise_exact (ty : NumTy) (hf : ty.float = false) (a b : BitVec w) :
    (∃ r, numBinary .band ty a b = .val r ∧ ∀ i, r.getLsbD i = (a.getLsbD i && b.getLsbD i)) ∧
    (∃ r, numBinary .bor ty a b = .val r ∧ ∀ i, r.getLsbD i = (a.getLsbD i || b.getLsbD i)) ∧
    (∃ r, numBinary .xor ty a b = .val r ∧ ∀ i, r.getLsbD i = (a.getLsbD i ^^ b.getLsbD i)) ∧
    (∃ r, numUnary .bnot ty a = .val r ∧ ∀ i, i < w → r.getLsbD i = !a.getLsbD i) := by
  cases ty
  cases hf
  exact ⟨⟨_, rfl, fun _ => BitVec.getLsbD_and⟩, ⟨_, rfl, fun _ => BitVec.getLsbD_or⟩,
    ⟨_, rfl, fun _ => BitVec.getLsbD_xor⟩, ⟨_, rfl, fun i hi => by simp [bnot, hi]⟩⟩

/-- For an amount below the width, `a >> b` is the floor of the operand's value divided by
`2^b`: arithmetic shift for signed types (the sign is kept), logical shift for unsigned ones. -/
theorem shr_by_signedness (ty : NumTy) (hf : ty.float = false) (a b : BitVec w)
    (hb : b.toNat < w) :
    ∃ r, numBinary .shr ty a b = .val r ∧
      valOf ty.signed r = valOf ty.signed a / 2 ^ b.toNat := by
  obtain ⟨_, _, s⟩ := ty
  cases hf
  cases s
  · exact ⟨_, rfl, ushr_floor a b hb⟩
  · exact ⟨_, rfl, sshr_floor a b hb⟩

/-- `a << b` multiplies by `2^b` and wraps. -/
theorem shl_wraps (ty : NumTy) (hf : ty.float = false) (a b : BitVec w) (hb : b.toNat < w) :
    ∃ r, numBinary .shl ty a b = .val r ∧
      valOf ty.signed r = wrap w ty.signed (valOf ty.signed a * 2 ^ b.toNat) := by
  cases ty
  cases hf
  exact ⟨_, rfl, by rw [ishl_eq _ a b hb, valOf_ofInt]⟩

/-- Every comparison is the comparison of the operands' values, read with the type's
signedness. -/
theorem cmp_by_signedness (ty : NumTy) (hf : ty.float = false) (a b : BitVec w) :
    numBinary .lt ty a b = .flag (decide (valOf ty.signed a < valOf ty.signed b)) ∧
    numBinary .le ty a b = .flag (decide (valOf ty.signed a ≤ valOf ty.signed b)) ∧
    numBinary .gt ty a b = .flag (decide (valOf ty.signed a > valOf ty.signed b)) ∧
    numBinary .ge ty a b = .flag (decide (valOf ty.signed a ≥ valOf ty.signed b)) ∧
    numBinary .eq ty a b = .flag (decide (valOf ty.signed a = valOf ty.signed b)) ∧
    numBinary .ne ty a b = .flag (decide (valOf ty.signed a ≠ valOf ty.signed b)) := by
  have he := icmp_eq ty.signed a b
  have hn := icmp_ne ty.signed a b
  cases hs : ty.signed
  · rw [hs] at he hn
    simp only [numBinary, hf, hs, valOf, icmp_ult, icmp_ule, icmp_ugt, icmp_uge, he, hn,
      Bool.false_eq_true, ↓reduceIte, GT.gt, GE.ge, and_self]
  · rw [hs] at he hn
    simp only [numBinary, hf, hs, valOf, icmp_slt, icmp_sle, icmp_sgt, icmp_sge, he, hn,
      Bool.false_eq_true, ↓reduceIte, GT.gt, GE.ge, and_self]

/-- `!b` on an integer-like operand tests for zero. -/
theorem lnot_is_zero_test (ty : NumTy) (hf : ty.float = false) (a : BitVec w) :
    numUnary .lnot ty a = .flag (decide (valOf ty.signed a = 0)) := by
  have := icmp_eq ty.signed a 0#w
  have hz : valOf ty.signed (0#w) = 0 := by
    unfold valOf
    cases ty.signed <;> simp
  rw [hz] at this
  simp [numUnary, hf, this]

/-- HEADLINE (casts). An explicit or implicit cast between integer-like types yields the
target-width pattern of the SOURCE's value (read with the source's signedness): the value
wrapped into the target's range. -/
theorem cast_int_int (cf ct : NumTy) (hf : cf.float = false) (ht : ct.float = false)
    (v : BitVec cf.bits) :
    ∃ r, castNum cf ct (.i cf.bits v) = .ok r ∧ r.width = ct.bits ∧
      r.int ct.signed = some (wrap ct.bits ct.signed (valOf cf.signed v)) :=
  ⟨_, castNum_int_int hf ht v, rfl, by rw [Val.int, valOf_ofInt]⟩

/-- An integer cast preserves the value whenever it is a value of the target type. -/
theorem cast_int_int_preserves (cf ct : NumTy) (hf : cf.float = false) (ht : ct.float = false)
    (hb : 0 < ct.bits) (v : BitVec cf.bits) (hfit : fits ct.bits ct.signed (valOf cf.signed v)) :
    ∃ r, castNum cf ct (.i cf.bits v) = .ok r ∧ r.width = ct.bits ∧
      r.int ct.signed = some (valOf cf.signed v) := by
  obtain ⟨r, h1, h2, h3⟩ := cast_int_int cf ct hf ht v
  exact ⟨r, h1, h2, by rw [h3, wrap_of_fits hb _ hfit]⟩

/-- In the property's words: a widening cast sign-extends a signed source and zero-extends an
unsigned one, whatever the target's signedness; a narrowing cast truncates. -/
theorem cast_extends_by_source (cf ct : NumTy) (hf : cf.float = false) (ht : ct.float = false)
    (v : BitVec cf.bits) :
    (cf.bits < ct.bits → castNum cf ct (.i cf.bits v) =
      .ok (.i ct.bits (if cf.signed then v.signExtend ct.bits else v.zeroExtend ct.bits))) ∧
    (ct.bits < cf.bits → castNum cf ct (.i cf.bits v) = .ok (.i ct.bits (v.truncate ct.bits))) := by
  rw [castNum_int_int hf ht]
  cases cf.signed
  · rw [show valOf false v = v.toNat from rfl, ← setWidth_eq_ofInt_toNat]
    exact ⟨fun _ => rfl, fun _ => rfl⟩
  · rw [show BitVec.ofInt ct.bits (valOf true v) = v.signExtend ct.bits from rfl]
    exact ⟨fun _ => rfl, fun h => by rw [BitVec.signExtend_eq_setWidth_of_le v (Nat.le_of_lt h)]⟩

/-- Before fix ee44c38 the code extended by `from.signed && to.signed`: `u32.(i8 -1)` was 255. -/
theorem pinned_cast_int_int_counterexample :
    castNumPinned ⟨8, false, true⟩ ⟨32, false, false⟩ (.i 8 (-1)) = .ok (.i 32 255) ∧
    castNum ⟨8, false, true⟩ ⟨32, false, false⟩ (.i 8 (-1)) = .ok (.i 32 4294967295) := by
  decide

/-- For every integer type of at most 64 bits the conversion instruction receives the
source's full value (so the float is the one nearest to it). -/
theorem cast_int_float_value_partial (cf ct : NumTy) (hf : cf.float = false)
    (ht : ct.float = true) (h64 : cf.bits ≤ 64) (v : BitVec cf.bits) :
    castNum cf ct (.i cf.bits v) = .ok (.f (.fin (valOf cf.signed v))) := by
  rw [castNum_int_float hf ht, wrap_of_fits (convWidth_pos _)]
  exact fits_mono (le_convWidth h64) _ (fits_valOf _ v)

/-- `i128`/`u128` are reduced to 64 bits before the conversion (Cranelift has no 128-bit
`fcvt_from_*` on x86-64): `f64.(i128 2^100)` receives 0. -/
theorem cast_int_float_value_counterexample :
    castNum ⟨128, false, true⟩ ⟨64, true, true⟩ (.i 128 (BitVec.ofNat 128 (2 ^ 100)))
      = .ok (.f (.fin 0)) ∧
    valOf true (BitVec.ofNat 128 (2 ^ 100)) = 2 ^ 100 := by
  decide

/-- Before fix ee44c38 the code reduced the source to the *target's* width first:
`f32.(i64 2^40)` received 0. -/
theorem pinned_cast_int_float_counterexample :
    castNumPinned ⟨64, false, true⟩ ⟨32, true, true⟩ (.i 64 (BitVec.ofNat 64 (2 ^ 40)))
      = .ok (.f (.fin 0)) ∧
    castNum ⟨64, false, true⟩ ⟨32, true, true⟩ (.i 64 (BitVec.ofNat 64 (2 ^ 40)))
      = .ok (.f (.fin (2 ^ 40))) := by
  decide

/-- A finite float whose truncation `z` is a value of the target type converts to `z` — for
every target of at most 64 bits, and for 128-bit targets as long as `z` also fits 64 bits. -/
theorem cast_float_int_partial (cf ct : NumTy) (hf : cf.float = true) (ht : ct.float = false)
    (hb : 0 < ct.bits) (z : Int) (hfit : fits ct.bits ct.signed z)
    (h64 : ct.bits ≤ 64 ∨ fits 64 ct.signed z) :
    ∃ r, castNum cf ct (.f (.fin z)) = .ok r ∧ r.width = ct.bits ∧
      r.int ct.signed = some z := by
  -- the value fits the conversion width, so neither the saturation nor the ladder changes it
  have hfitc : fits (convWidth ct.bits) ct.signed z := by
    by_cases h : ct.bits ≤ 64
    · exact fits_mono (le_convWidth h) _ hfit
    · have : convWidth ct.bits = 64 := by
        unfold convWidth
        split <;> omega
      rw [this]
      exact h64.resolve_left h
  refine ⟨_, castNum_float_int hf ht _, rfl, ?_⟩
  rw [Val.int, fcvtToSat_fin hfitc, valOf_ofInt, valOf_ofInt,
    wrap_of_fits (convWidth_pos _) _ hfitc, wrap_of_fits hb _ hfit]

/-- 128-bit targets go through a 64-bit saturating conversion (no 128-bit `fcvt_to_*` on
x86-64): `u128.(f64 2^64)` is `2^64 - 1` although `2^64` fits `u128`. -/
theorem cast_float_int_counterexample :
    castNum ⟨64, true, true⟩ ⟨128, false, false⟩ (.f (.fin (2 ^ 64)))
      = .ok (.i 128 (BitVec.ofNat 128 (2 ^ 64 - 1))) ∧
    fits 128 false (2 ^ 64) := by
  decide

/-- Before fix ee44c38 the code converted at the *source's* width: `i64.(f32 3e9)` saturated at
`i32::MAX`. -/
theorem pinned_cast_float_int_counterexample :
    castNumPinned ⟨32, true, true⟩ ⟨64, false, true⟩ (.f (.fin 3000000000))
      = .ok (.i 64 2147483647) ∧
    castNum ⟨32, true, true⟩ ⟨64, false, true⟩ (.f (.fin 3000000000))
      = .ok (.i 64 3000000000) := by
  decide

/-- NaN converts to 0 (nothing is claimed by the property here). -/
theorem cast_float_int_nan (cf ct : NumTy) (hf : cf.float = true) (ht : ct.float = false) :
    ∃ r, castNum cf ct (.f .nan) = .ok r ∧ r.width = ct.bits ∧ r.int ct.signed = some 0 := by
  refine ⟨_, castNum_float_int hf ht _, rfl, ?_⟩
  rw [Val.int, fcvtToSat_nan, valOf_ofInt, valOf_ofInt]
  cases ct.signed <;> simp [wrap]

/-- `fpromote` is exact (the denoted value is unchanged); `fdemote` rounds and is not modelled. -/
theorem cast_float_float_promote (cf ct : NumTy) (hf : cf.float = true) (ht : ct.float = true)
    (h : cf.bits ≤ ct.bits) (x : FVal) : castNum cf ct (.f x) = .ok (.f x) := by
  by_cases heq : cf.bits = ct.bits
  · simp [castNum, hf, ht, heq]
  · have : cf.bits < ct.bits := by omega
    simp [castNum, hf, ht, heq, this]

/-- Signedness and width of every numeric type as the code generator sees them: `iN` signed,
`uN` unsigned, `isize`/`usize` pointer-sized, `{uint}` is a signed `i32`, `bool`/`char` are
unsigned bytes. -/
theorem final_ty_table (p : Nat) :
    finalTy p (.iint 8) = some (.number ⟨8, false, true⟩) ∧
    finalTy p (.iint 16) = some (.number ⟨16, false, true⟩) ∧
    finalTy p (.iint 32) = some (.number ⟨32, false, true⟩) ∧
    finalTy p (.iint 64) = some (.number ⟨64, false, true⟩) ∧
    finalTy p (.iint 128) = some (.number ⟨128, false, true⟩) ∧
    finalTy p (.iint 255) = some (.number ⟨p, false, true⟩) ∧
    finalTy p (.uint 8) = some (.number ⟨8, false, false⟩) ∧
    finalTy p (.uint 16) = some (.number ⟨16, false, false⟩) ∧
    finalTy p (.uint 32) = some (.number ⟨32, false, false⟩) ∧
    finalTy p (.uint 64) = some (.number ⟨64, false, false⟩) ∧
    finalTy p (.uint 128) = some (.number ⟨128, false, false⟩) ∧
    finalTy p (.uint 255) = some (.number ⟨p, false, false⟩) ∧
    finalTy p (.iint 0) = some (.number ⟨32, false, true⟩) ∧
    finalTy p (.uint 0) = some (.number ⟨32, false, true⟩) ∧
    finalTy p .bool = some (.number ⟨8, false, false⟩) ∧
    finalTy p .char = some (.number ⟨8, false, false⟩) ∧
    finalTy p (.float 32) = some (.number ⟨32, true, true⟩) ∧
    finalTy p (.float 64) = some (.number ⟨64, true, true⟩) := by
  simp [finalTy, finalizeInt]

/-- `i8`: 100 + 100 wraps to -56; `u8`: 200 + 100 wraps to 44. -/
example : numBinary .add ⟨8, false, true⟩ (100 : BitVec 8) 100 = .val (BitVec.ofInt 8 (-56)) := by
  decide
example : numBinary .add ⟨8, false, false⟩ (200 : BitVec 8) 100 = .val 44 := by decide
/-- `-7 / 2 = -3`, `-7 % 2 = -1` (truncation toward zero, not floor) -/
example : numBinary .div ⟨8, false, true⟩ (BitVec.ofInt 8 (-7)) 2 = .val (BitVec.ofInt 8 (-3)) := by
  decide
example : numBinary .mod ⟨8, false, true⟩ (BitVec.ofInt 8 (-7)) 2 = .val (BitVec.ofInt 8 (-1)) := by
  decide
/-- the same bits shift and compare differently as `i8` and `u8` -/
example : numBinary .shr ⟨8, false, true⟩ (0x80 : BitVec 8) 1 = .val 0xC0 ∧
    numBinary .shr ⟨8, false, false⟩ (0x80 : BitVec 8) 1 = .val 0x40 := by decide
example : numBinary .lt ⟨8, false, true⟩ (0x80 : BitVec 8) 1 = .flag true ∧
    numBinary .lt ⟨8, false, false⟩ (0x80 : BitVec 8) 1 = .flag false := by decide
/-- the overflow exclusion of `div_trunc` is needed: `MIN / -1` faults -/
example : numBinary .div ⟨8, false, true⟩ (BitVec.intMin 8) (BitVec.allOnes 8) = .trap := by decide
/-- casts: `i8 -1 → u32`, `u8 255 → i32`, `i32 -2 → u8`, `f64 -3.x → i8`, `f32 300.x → u8` -/
example : castNum ⟨8, false, true⟩ ⟨32, false, false⟩ (.i 8 (-1)) = .ok (.i 32 0xFFFFFFFF) := by
  decide
example : castNum ⟨8, false, false⟩ ⟨32, false, true⟩ (.i 8 255) = .ok (.i 32 255) := by decide
example : castNum ⟨32, false, true⟩ ⟨8, false, false⟩ (.i 32 (-2)) = .ok (.i 8 254) := by decide
example : castNum ⟨64, true, true⟩ ⟨8, false, true⟩ (.f (.fin (-3))) = .ok (.i 8 (-3)) := by decide
example : castNum ⟨32, true, true⟩ ⟨8, false, false⟩ (.f (.fin 300)) = .ok (.i 8 44) := by decide
example : fits 8 true (-128) ∧ ¬ fits 8 true 128 ∧ fits 8 false 255 ∧ ¬ fits 8 false (-1) := by
  decide

end CapyV.C08
