import CapyV.Proofs.TypeId
/-!
# C18 — reflection and type values describe the code actually generated

Statements are about `CapyV.TypeId` (the model of `simple_id*` / `to_type_id`, of the tables
written by `ty_info.rs` and of the decoders of `meta.capy`), with every constant taken from
`Generated/TypeIds.lean` (regenerated from both source files on every run). Layout numbers are
those of `CapyV.Layout` (C17: `C17.align_pow2_le8`, `C17.struct_fields_ok`, `C17.array_size`,
`C17.stride_rounds_up`, `C17.*_tag_after_*` are the theorems about them — not repeated here).
-/
namespace CapyV.C18
open CapyV CapyV.TypeIds CapyV.TypeId

/-- The discriminant table of `meta.capy` is the table of `convert.rs` without its 13th row `NO_RETURN` (which
no source-level type value can denote), every shift and mask of the Capy decoders is the one the
Rust encoder uses, the asserted field ranges fit the masks, and the simple/compound split of
`meta.capy` (`discriminant < 16`) separates exactly the `simple_id*` discriminants from the
per-kind list discriminants. -/
theorem constants_agree :
    Capy.table = Rust.table.eraseIdx 12 ∧ Rust.table[12]? = some ("no_return", Rust.no_return) ∧
    Capy.discShift = Rust.discShift ∧ Capy.indexShift = Rust.compoundShift ∧
    Capy.alignShift = Rust.alignShift ∧ Capy.signShift = Rust.signShift ∧
    Capy.sizeMask = 2 ^ Rust.alignShift - 1 ∧ Capy.widthMask = Capy.sizeMask ∧
    Capy.alignMask = 2 ^ (Rust.signShift - Rust.alignShift) - 1 ∧ Capy.signMask = 1 ∧
    Capy.indexMask = 2 ^ (32 - Rust.compoundShift) - 1 ∧
    Rust.sizeLimit ≤ Capy.sizeMask ∧ Rust.alignLimit ≤ Capy.alignMask ∧
    Rust.discLimit ≤ Capy.indexMask ∧
    (Rust.table.filter (fun e => e.2 < Capy.simpleLimit)).map (·.1) =
      ["void", "int", "float", "bool", "string", "char", "meta_type", "any", "file", "raw_ptr",
       "raw_slice", "nil", "no_return"] ∧
    (∀ k : Kind, Capy.simpleLimit ≤ k.disc ∧ k.disc < Rust.discLimit) := by
  refine ⟨rfl, rfl, rfl, rfl, rfl, rfl, by decide, rfl, by decide, rfl, by decide, by decide,
    by decide, by decide, rfl, ?_⟩
  intro k; cases k <;> decide

/-- Every simple id built inside the asserted ranges is a `u32` and decodes (with the `meta.capy`
decoders) to the discriminant, size, alignment and sign it was built from. -/
theorem decode_encode (d s a : Nat) (sg : Bool) (hd : d < Rust.discLimit) (hs : s < Rust.sizeLimit)
    (ha : a < Rust.alignLimit) :
    ∃ id, simpleIdWithAlign d s a sg = some id ∧ id < 2 ^ 32 ∧
      decDisc id = d ∧ decSize id = s ∧ decAlign id = a ∧ decSign id = sg ∧
      decBitWidth id = s * 8 := by
  have hb : sg.toNat < 2 := Bool.toNat_lt sg
  have ha16 : a < 16 := Nat.lt_succ_of_lt ha
  have hs32 : s < 32 := Nat.lt_succ_of_lt hs
  have hdisc : decDisc (packed d sg.toNat a s) = d := decDisc_packed hb ha16 hs32
  have hu32 : packed d sg.toNat a s < 2 ^ 32 := lt_of_decDisc (hdisc.symm ▸ Nat.lt_succ_of_lt hd)
  refine ⟨_, simpleIdWithAlign_val sg hd hs ha, hu32, hdisc, decSize_packed hs32,
    decAlign_packed ha16 hs32, ?_, ?_⟩
  · rw [decSign_packed hb ha16 hs32]
    cases sg <;> rfl
  · rw [decBitWidth_eq, decSize_packed hs32]
    omega

/-- Outside the asserted ranges the encoder panics (no id is produced). -/
theorem encode_out_of_range (d s a : Nat) (sg : Bool)
    (h : ¬ (d < Rust.discLimit ∧ s < Rust.sizeLimit ∧ a < Rust.alignLimit)) :
    simpleIdWithAlign d s a sg = none :=
  if_neg h

/-- A compound id `X_DISCRIMINANT << 26 | list_id` decodes to its discriminant and list index as
long as fewer than 2^26 types of the kind exist. -/
theorem compound_id_roundtrip (k : Kind) (idx : Nat) (hidx : idx < 2 ^ 26) :
    let id := (k.disc <<< Rust.compoundShift) ||| idx
    id < 2 ^ 32 ∧ decDisc id = k.disc ∧ decIndex id = idx ∧ ¬ decDisc id < Capy.simpleLimit := by
  have hk := kind_disc_range k
  obtain ⟨hd, hi⟩ := compound_dec k.disc hidx
  have hd64 : decDisc ((k.disc <<< Rust.compoundShift) ||| idx) < 64 := by
    rw [hd]
    omega
  refine ⟨lt_of_decDisc hd64, hd, hi, ?_⟩
  rw [hd, Capy.simpleLimit]
  omega

/-- At 2^26 types of one kind the index spills into the discriminant bits. -/
theorem compound_id_roundtrip_bound_needed :
    decDisc ((Kind.struct.disc <<< Rust.compoundShift) ||| 2 ^ 26) = Kind.distinct.disc := by decide

/-- `to_type_id` keeps the invariant of `MetaTyData` (table keys unique, `tys_to_compile` in
lock-step, counters = number of registered types per kind, every compound id =
`discriminant << 26 | position among the types of its kind`, every simple id = its encoding),
only appends to the table, and the id it returns is the one the table holds for the type.
By mutual structural induction over types / member lists / variant lists. -/
theorem to_type_id_preserves_inv (pw : Nat) (t : Ty) (st st' : St) (id : Nat) (hinv : Inv pw st)
    (h : toTypeId pw t st = some (id, st')) :
    Inv pw st' ∧ (∃ added, st'.ids = st.ids ++ added) ∧ find t st'.ids = some id := by
  obtain ⟨h1, ⟨added, h2, _⟩, h3⟩ := toTypeId_ok pw t st id st' hinv h
  exact ⟨h1, ⟨added, h2⟩, h3⟩

/-- Every state reachable from the empty `MetaTyData` satisfies the invariant. -/
theorem reachable_inv (pw : Nat) (ts : List Ty) (ids : List Nat) (st : St)
    (h : typeIdsFrom pw ts St.empty = some (ids, st)) : Inv pw st :=
  typeIdsFrom_ok pw ts St.empty ids st (Inv.empty pw) h

/-- **Headline.** In a reachable table with fewer than 2^26 types per kind, two registered
(well-formed) types have the same id iff they are the same type or one of the explicit
coincidences listed by `canon`: pointer-sized vs same-width integer (`usize`/`u64`,
`isize`/`i64` on a 64-bit target), weak vs default types (`{int}`,`{uint}` ↦ `i32`,
`{float}` ↦ `f32`), `Unknown`/`NotYetResolved`/`void`, and all `file` types. -/
theorem ids_injective_mod_runtime_equiv (pw : Nat) (hpw : Layout.okPw pw = true) (st : St)
    (hinv : Inv pw st) (hsmall : ∀ k, st.ctr k ≤ 2 ^ 26) (t1 t2 : Ty) (id1 id2 : Nat)
    (h1 : (t1, id1) ∈ st.ids) (h2 : (t2, id2) ∈ st.ids)
    (w1 : Layout.wf t1 = true) (w2 : Layout.wf t2 = true) :
    id1 = id2 ↔ canon pw t1 = canon pw t2 := by
  constructor
  · intro e
    subst e
    have hs : kindOf t1 = none ↔ kindOf t2 = none :=
      (entry_simple_iff hpw hinv hsmall h1 w1).symm.trans (entry_simple_iff hpw hinv hsmall h2 w2)
    cases hk1 : kindOf t1 with
    | none =>
      -- a simple id can be read back: both types are what it decodes to
      obtain ⟨i1, s1⟩ := simple_entry hinv hk1 h1
      obtain ⟨i2, s2⟩ := simple_entry hinv (hs.mp hk1) h2
      exact (simple_facts hpw w1 s1 i1).1.symm.trans (simple_facts hpw w2 s2 i2).1
    | some k1 =>
      cases hk2 : kindOf t2 with
      | none =>
        rw [hs.mpr hk2] at hk1
        cases hk1
      | some k2 =>
        -- a compound id decodes to a kind and a position in the table, where only one type sits
        obtain ⟨n1, d1, x1, g1⟩ := compound_entry hinv hsmall hk1 h1
        obtain ⟨n2, d2, x2, g2⟩ := compound_entry hinv hsmall hk2 h2
        cases kind_disc_inj (d1.symm.trans d2)
        rw [← x1, x2, g2] at g1
        rw [canon_compound pw t1 hk1, canon_compound pw t2 hk2]
        exact (Prod.mk.inj (Option.some.inj g1)).1.symm
  · intro e
    have hkk : kindOf t1 = kindOf t2 := by rw [← canon_kind pw t1, e, canon_kind]
    cases hk2 : kindOf t2 with
    | none =>
      obtain ⟨i1, _⟩ := simple_entry hinv (hkk.trans hk2) h1
      obtain ⟨i2, _⟩ := simple_entry hinv hk2 h2
      rw [← simpleIdOf_canon pw hpw, e, simpleIdOf_canon pw hpw, i2] at i1
      exact (Option.some.inj i1).symm
    | some k =>
      rw [canon_compound pw t1 (hkk.trans hk2), canon_compound pw t2 hk2] at e
      subst e
      exact Option.some.inj ((find_of_mem hinv.nodup h1).symm.trans (find_of_mem hinv.nodup h2))

/-- The full-strength statement ("same id iff same type") holds under the decidable guard that both
types are their own representative (no pointer-sized / weak / unknown / non-zero-file type). -/
theorem ids_injective_partial (pw : Nat) (hpw : Layout.okPw pw = true) (st : St)
    (hinv : Inv pw st) (hsmall : ∀ k, st.ctr k ≤ 2 ^ 26) (t1 t2 : Ty) (id1 id2 : Nat)
    (h1 : (t1, id1) ∈ st.ids) (h2 : (t2, id2) ∈ st.ids)
    (w1 : Layout.wf t1 = true) (w2 : Layout.wf t2 = true)
    (g1 : canon pw t1 = t1) (g2 : canon pw t2 = t2) :
    id1 = id2 ↔ t1 = t2 := by
  have := ids_injective_mod_runtime_equiv pw hpw st hinv hsmall t1 t2 id1 id2 h1 h2 w1 w2
  rw [g1, g2] at this
  exact this

/-- The state after a program mentions `usize` and `u64` (64-bit target). -/
def stUsizeU64 : Option (List Nat × St) := typeIdsFrom 64 [.uint 255, .uint 64] St.empty

/-- **The full-strength statement is false of the code** (DESIGN.md §6 #17): `usize` and `u64`
receive the same id, so `usize == u64` is `true`. -/
theorem usize_u64_counterexample :
    stUsizeU64.map (fun r => (r.1, r.2.ids)) =
      some ([134217992, 134217992], [(.uint 255, 134217992), (.uint 64, 134217992)]) ∧
    Ty.uint 255 ≠ Ty.uint 64 := by
  constructor
  · decide
  · decide

theorem isize_i64_counterexample :
    (typeIdsFrom 64 [.iint 255, .iint 64] St.empty).map (fun r => (r.1, r.2.ids)) =
      some ([134218504, 134218504], [(.iint 255, 134218504), (.iint 64, 134218504)]) ∧
    Ty.iint 255 ≠ Ty.iint 64 := by
  constructor
  · decide
  · decide

/-- Negation of "same id ⇒ same type" at that witness, in the shape of the headline theorem. -/
theorem ids_injective_counterexample :
    ¬ (∀ (st : St), Inv 64 st → (∀ k, st.ctr k ≤ 2 ^ 26) → ∀ t1 t2 id1 id2,
        (t1, id1) ∈ st.ids → (t2, id2) ∈ st.ids → Layout.wf t1 = true → Layout.wf t2 = true →
        (id1 = id2 ↔ t1 = t2)) := by
  intro hall
  have hw := usize_u64_counterexample.1
  cases hs : stUsizeU64 with
  | none =>
    rw [hs] at hw
    simp at hw
  | some r =>
    obtain ⟨ids, st⟩ := r
    rw [hs] at hw
    simp only [Option.map_some, Option.some.injEq, Prod.mk.injEq] at hw
    have hinv : Inv 64 st := reachable_inv 64 _ ids st hs
    have hctr : ∀ k, st.ctr k ≤ 2 ^ 26 := by
      intro k; rw [hinv.ctr k, hw.2]; cases k <;> decide
    have := (hall st hinv hctr (.uint 255) (.uint 64) 134217992 134217992
      (by rw [hw.2]; simp) (by rw [hw.2]; simp) (by decide) (by decide)).mp rfl
    exact absurd this (by decide)

/-- The other coincidences at model level (never `type` values of a running program: weak types are
defaulted and `Unknown` is an error before codegen). -/
theorem weak_default_coincidence :
    (typeIdsFrom 64 [.uint 0, .iint 0, .iint 32, .float 0, .float 32, .unknown, .void] St.empty).map (·.1) =
      some [134218372, 134218372, 134218372, 201326724, 201326724, 67108896, 67108896] := by decide

/-- For a registered well-formed type, `meta.size_of` / `meta.align_of`
applied to its id return exactly the size and alignment of the layout model of C17 (what
`calc_layouts` stores and the code generator uses): through the id bits for simple types, through
the per-kind table row selected by the list index for compound ones, through `pointer_layout` for
pointers, functions and slices. -/
theorem reflected_layout (pw : Nat) (hpw : Layout.okPw pw = true) (st : St) (hinv : Inv pw st)
    (hsmall : ∀ k, st.ctr k ≤ 2 ^ 26) (t : Ty) (id : Nat) (h : (t, id) ∈ st.ids)
    (hwf : Layout.wf t = true) :
    metaSizeOf pw st id = some (Layout.size pw t) ∧ metaAlignOf pw st id = some (Layout.align pw t) := by
  cases hk : kindOf t with
  | none =>
    obtain ⟨i1, s1⟩ := simple_entry hinv hk h
    obtain ⟨_, d, _, hs, ha, _⟩ := simple_facts hpw hwf s1 i1
    have d' : decDisc id < Capy.simpleLimit := d
    simp [metaSizeOf, metaAlignOf, d', hs, ha]
  | some k =>
    obtain ⟨n, hdisc, hidx, g⟩ := compound_entry hinv hsmall hk h
    have hrow : (layoutTable pw st k)[n]? = some (Layout.layout pw t) := by
      unfold layoutTable
      rw [hinv.lock]
      have : (keys st.ids).filter (fun t => kindOf t == some k)
          = (st.ids.filter fun e => kindOf e.1 == some k).map Prod.fst := by
        simp [keys, List.filter_map, Function.comp_def]
      rw [this, List.getElem?_map, List.getElem?_map, g]
      rfl
    have hmul : pw / 8 * 2 / 2 = pw / 8 := Nat.mul_div_cancel _ (by decide)
    rw [metaSizeOf_compound pw st hdisc, metaAlignOf_compound pw st hdisc, hidx]
    -- by kind: seven kinds read their row `hrow`; slices, pointers and functions have `pointer_layout`
    cases t <;> simp [kindOf] at hk <;> subst hk <;>
      simp [hrow, pointerLayout, Layout.size, Layout.align, Layout.layout, hmul]

/-- Integer width, signedness and raw-pointer mutability are read back from the id bits exactly. -/
theorem reflected_flags (pw : Nat) (hpw : Layout.okPw pw = true) (st : St) (hinv : Inv pw st)
    (t : Ty) (id : Nat) (h : (t, id) ∈ st.ids) (hwf : Layout.wf t = true) (hk : kindOf t = none) :
    decSign id = expectSign t ∧ decBitWidth id = Layout.size pw t * 8 % 256 := by
  obtain ⟨i1, s1⟩ := simple_entry hinv hk h
  obtain ⟨_, _, _, hs, _, hsg⟩ := simple_facts hpw hwf s1 i1
  refine ⟨hsg, ?_⟩
  rw [decBitWidth_eq, hs]

/-- `struct { a: usize, b: [3]u8 }`, `[2][3]u8`, `?^u8` registered from the empty table -/
def exTys : List Ty :=
  [.concreteStruct 7 (.cons 100 (.uint 255) (.cons 101 (.concreteArray 3 (.uint 8)) .nil)),
   .concreteArray 2 (.concreteArray 3 (.uint 8)), .optional (.pointer false (.uint 8))]

example : (typeIdsFrom 64 exTys St.empty).map (·.1) = some [1073741824, 1207959553, 1610612736] := by decide
example : (typeIdsFrom 64 exTys St.empty).map (fun r => r.2.ids.map (·.2)) =
    some [134217992, 134217761, 1207959552, 1073741824, 1207959553, 1342177280, 1610612736] := by decide
example : (typeIdsFrom 64 exTys St.empty).bind (fun r => metaSizeOf 64 r.2 1073741824) = some 11 := by decide
example : (typeIdsFrom 64 exTys St.empty).bind (fun r => metaAlignOf 64 r.2 1207959553) = some 1 := by decide
example : simpleIdWithAlign 2 8 8 true = some 134218504 := by decide
example : simpleIdWithAlign 2 31 8 true = none := by decide
example : Layout.okPw 64 = true ∧ Layout.wf (.uint 255) = true := by decide

end CapyV.C18
