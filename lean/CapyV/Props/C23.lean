import CapyV.Proofs.ParserKernel
/-!
# C23 — parsing is total, terminating and lossless (parser kernel + sink)

All statements are about `CapyV.ParserKernel`: `sinkFinish` is the model of `Sink::finish`
(`crates/parser/src/sink.rs`), `krun` of the parser's token kernel (`skip_trivia`, `bump`,
`at_eof` in `crates/parser/src/parser.rs`), `guardedLoop` of the progress guard of the grammar's
list loops. Tokens are abstracted to their trivia class (`Cls`), `ck` is `NodeKind::Comment`,
`countAdd evs` / `countOther toks` count the `AddToken` events / the non-trivia tokens.
-/
namespace CapyV.C23
open CapyV CapyV.ParserKernel

/-- Whatever the events are, when the sink does not panic it has added the tokens
`0, 1, …, n-1` — each once, in input order, none skipped — and `n` never exceeds the input. -/
theorem sink_tokens_in_order (ck : Nat) (toks : List Cls) (evs : List Ev) (out : List Out) (n : Nat)
    (h : sinkFinish ck toks evs = some (out, n)) :
    outToks out = List.range n ∧ n ≤ toks.length := by
  obtain ⟨s, hr, rfl, rfl⟩ := sinkFinish_some h
  obtain ⟨i1, i2⟩ := runEvents_inv (total := toks.length) ⟨by simp, by simp⟩ hr
  exact ⟨by rw [outToks_reverse, i1, List.reverse_reverse], by omega⟩

/-- HEADLINE. If the parser pushed exactly one `AddToken` per non-trivia token, the sink never
indexes past the tokens and adds ALL of them: the tree's text is the input, byte for byte. -/
theorem sink_lossless (ck : Nat) (toks : List Cls) (evs : List Ev) (hshape : RootShape evs)
    (hcount : countAdd evs = countOther toks) :
    ∃ out, sinkFinish ck toks evs = some (out, toks.length) ∧ outToks out = List.range toks.length := by
  have := sinkFinish_spec ck toks evs hshape
  rw [if_pos (by omega)] at this
  obtain ⟨out, n, a, -, c⟩ := this
  obtain rfl := c.2 hcount
  exact ⟨out, a, (sink_tokens_in_order ck toks evs out _ a).1⟩

/-- The sink panics (`tokens.kind(idx)` out of bounds) exactly when there are more `AddToken`
events than non-trivia tokens. -/
theorem sink_panics_iff (ck : Nat) (toks : List Cls) (evs : List Ev) (hshape : RootShape evs) :
    sinkFinish ck toks evs = none ↔ countOther toks < countAdd evs := by
  have := sinkFinish_spec ck toks evs hshape
  split at this
  · obtain ⟨out, n, a, -⟩ := this
    simp [a]
    omega
  · simp [this]
    omega

/-- With too few `AddToken` events the sink succeeds but tokens are lost. -/
theorem sink_loses_tokens (ck : Nat) (toks : List Cls) (evs : List Ev) (hshape : RootShape evs)
    (hcount : countAdd evs < countOther toks) :
    ∃ out n, sinkFinish ck toks evs = some (out, n) ∧ n < toks.length := by
  have := sinkFinish_spec ck toks evs hshape
  rw [if_pos (by omega)] at this
  obtain ⟨out, n, a, b, c⟩ := this
  refine ⟨out, n, a, ?_⟩
  have : n ≠ toks.length := fun hn => by have := c.1 hn; omega
  omega

theorem sink_lossless_iff (ck : Nat) (toks : List Cls) (evs : List Ev) (hshape : RootShape evs) :
    (∃ out, sinkFinish ck toks evs = some (out, toks.length)) ↔ countAdd evs = countOther toks := by
  constructor
  · rintro ⟨out, h⟩
    have := sinkFinish_spec ck toks evs hshape
    split at this
    · obtain ⟨out', n, a, -, c⟩ := this
      rw [h] at a
      simp only [Option.some.injEq, Prod.mk.injEq] at a
      exact c.1 a.2.symm
    · rw [h] at this
      simp at this
  · intro h
    obtain ⟨out, a, -⟩ := sink_lossless ck toks evs hshape h
    exact ⟨out, a⟩

/-- Along any successful run the parser's `token_idx` stays within the tokens. -/
theorem kernel_idx_le (toks : List Cls) (ops : List KOp) (s : PState)
    (hrun : krun ops ⟨toks, 0, 0, []⟩ = some s) : s.idx ≤ toks.length := by
  obtain ⟨⟨pre, h1, h2, -⟩, -, -, -, -⟩ := krun_inv ops (KInv.init toks) hrun
  rw [h1, List.length_append]
  omega

/-- A grammar that only uses the kernel and stops at end of input has pushed exactly one
`AddToken` per non-trivia token. -/
theorem kernel_counts (toks : List Cls) (ops : List KOp) (s : PState)
    (hrun : krun ops ⟨toks, 0, 0, []⟩ = some s) (heof : s.atEof = true) :
    s.adds = countOther toks :=
  (krun_inv ops (KInv.init toks) hrun).atEof_adds heof

/-- What the harness checks on the real `bump_log` is a theorem of the kernel: every bumped
index is in range and points at a non-trivia token, and the log (newest first) is strictly
decreasing, so no token is bumped twice. -/
theorem kernel_bumps_nontrivia (toks : List Cls) (ops : List KOp) (s : PState)
    (hrun : krun ops ⟨toks, 0, 0, []⟩ = some s) :
    (∀ b ∈ s.bumps, b < toks.length ∧ toks[b]? = some Cls.other) ∧
    s.bumps.Pairwise (· > ·) ∧ s.bumps.length = s.adds := by
  have inv := krun_inv ops (KInv.init toks) hrun
  refine ⟨fun b hb => ?_, inv.bumps_sorted, inv.bumps_len⟩
  have h := inv.bumps_other b hb
  exact ⟨(List.getElem?_eq_some_iff.1 h).1, h⟩

/-- Kernel + sink: for ANY event list with the root shape whose number of `AddToken` events is
the one pushed by a successful kernel run that reached end of input, the sink adds all tokens.
The kernel model produces no event list: `hshape` and `hadds` are what the harness checks on the
real parser's trace. -/
theorem parse_then_sink_lossless (ck : Nat) (toks : List Cls) (ops : List KOp) (s : PState)
    (evs : List Ev) (hrun : krun ops ⟨toks, 0, 0, []⟩ = some s) (heof : s.atEof = true)
    (hshape : RootShape evs) (hadds : countAdd evs = s.adds) :
    ∃ out, sinkFinish ck toks evs = some (out, toks.length) ∧ outToks out = List.range toks.length :=
  sink_lossless ck toks evs hshape (by rw [hadds, kernel_counts toks ops s hrun heof])

/-- `body` is one iteration of a list loop as a function on `token_idx`, `bound` the number of
tokens. A loop body that never moves `token_idx` backwards nor past `bound` makes the guarded loop
stop by itself: with `fuel ≥ bound - idx + 1` it performs between 1 and `bound - idx + 1`
iterations, ends on an index where the body makes no progress (the `break`), and more fuel
does not change the result. -/
theorem guarded_loop_terminates (body : Nat → Nat) (bound idx fuel : Nat)
    (hmono : ∀ i, i ≤ body i) (hbound : ∀ i, i ≤ bound → body i ≤ bound)
    (hidx : idx ≤ bound) (hfuel : bound - idx + 1 ≤ fuel) :
    1 ≤ (guardedLoop body fuel idx).1 ∧ (guardedLoop body fuel idx).1 ≤ bound - idx + 1 ∧
    body (guardedLoop body fuel idx).2 = (guardedLoop body fuel idx).2 ∧
    idx ≤ (guardedLoop body fuel idx).2 ∧ (guardedLoop body fuel idx).2 ≤ bound ∧
    ∀ fuel', fuel ≤ fuel' → guardedLoop body fuel' idx = guardedLoop body fuel idx := by
  induction fuel generalizing idx with
  | zero => omega
  | succ fuel ih =>
    have more : ∀ fuel', fuel + 1 ≤ fuel' → ∃ g, fuel' = g + 1 ∧ fuel ≤ g :=
      fun fuel' h => ⟨fuel' - 1, by omega, by omega⟩
    rw [guardedLoop_succ]
    split
    · rename_i heq
      refine ⟨Nat.le_refl _, by omega, heq, Nat.le_refl _, hidx, fun fuel' hf => ?_⟩
      obtain ⟨g, rfl, -⟩ := more fuel' hf
      rw [guardedLoop_succ, if_pos heq]
    · rename_i hne
      -- the body moved `idx` up, so `bound - idx` pays for the remaining iterations
      have hm := hmono idx
      have hb := hbound idx hidx
      obtain ⟨a, b, c, d, e, k⟩ := ih (body idx) hb (by omega)
      refine ⟨by omega, by omega, c, by omega, e, fun fuel' hf => ?_⟩
      obtain ⟨g, rfl, hg⟩ := more fuel' hf
      rw [guardedLoop_succ, if_neg hne, k g hg]

/-- On tokens of lexer shape (every `CommentContents` immediately preceded by a
`CommentLeader`) `Sink::skip_trivia` leaves the builder's nesting depth unchanged: each
`start_node(Comment)` is closed by its `finish_node`, and no `finish_node` comes early. -/
theorem comment_nodes_balanced (ck : Nat) (s : Sink) (d0 d : Nat) (hshape : LexShape s.rest)
    (h : depthAfter d0 s.out.reverse = some d) :
    depthAfter d0 (skipTrivia ck s).out.reverse = some d := by
  rw [skipTrivia_eq_loop]
  apply skipTriviaLoop_depth ck s.rest s.idx s.out false d0 d hshape
  simpa [lexShapeFrom_false_head hshape] using h

/-- From an empty builder, `Sink::skip_trivia` on tokens of lexer shape makes balanced calls. -/
theorem comment_nodes_balanced_init (ck : Nat) (toks : List Cls) (hshape : LexShape toks) :
    Balanced (skipTrivia ck ⟨toks, 0, []⟩).out.reverse :=
  comment_nodes_balanced ck ⟨toks, 0, []⟩ 0 0 hshape rfl

/-- `Sink::skip_trivia`'s second `while let` loop is dead code: the first loop already stops in
front of a non-trivia token. -/
theorem skip_trivia_second_loop_dead (ck : Nat) (s : Sink) :
    skipTrivia ck s = skipTriviaLoop ck s.rest s.idx s.out :=
  skipTrivia_eq_loop ck s

/-! ### Non-vacuity
`a // c\n b` lexes to `[Ident, Whitespace, CommentLeader, CommentContents, Whitespace, Ident]`. -/
def exToks : List Cls := [.other, .ws, .leader, .contents, .ws, .other]
def exEvs : List Ev := [.start 0, .add, .add, .finish]
def exOps : List KOp := [.marker, .look, .bump, .look, .bump, .look, .marker]

example : RootShape exEvs := ⟨⟨0, rfl⟩, rfl⟩
example : countAdd exEvs = countOther exToks := by decide
example : LexShape exToks := by decide
example : sinkFinish 67 exToks exEvs =
    some ([.start 0, .tok 0, .tok 1, .start 67, .tok 2, .tok 3, .finish, .tok 4, .tok 5, .finish], 6) := by
  decide
/-- too many `AddToken`s: the sink panics -/
example : sinkFinish 67 exToks [.start 0, .add, .add, .add, .finish] = none := by decide
/-- too few `AddToken`s: no panic, but the last token never reaches the tree (5 of 6 added) -/
example : sinkFinish 67 exToks [.start 0, .add, .finish] =
    some ([.start 0, .tok 0, .tok 1, .start 67, .tok 2, .tok 3, .finish, .tok 4, .finish], 5) := by
  decide
/-- an event list without the root shape trips the `assert!`s -/
example : sinkFinish 67 exToks [.add, .finish] = none := by decide
/-- a kernel run over the same tokens: two bumps (tokens 0 and 5), at eof, `token_idx = 6` -/
example : krun exOps ⟨exToks, 0, 0, []⟩ = some ⟨[], 6, 2, [5, 0]⟩ := by decide
example : (PState.mk [] 6 2 [5, 0]).atEof = true := by decide
/-- `bump` at end of input is the kernel's failure -/
example : krun [.bump, .bump, .bump] ⟨exToks, 0, 0, []⟩ = none := by decide
/-- comment without contents followed by a token -/
example : (skipTrivia 67 ⟨[.leader, .ws, .other], 0, []⟩).out.reverse =
    [.start 67, .tok 0, .finish, .tok 1] := by decide
/-- a guarded loop that advances by 2 up to 7 -/
example : guardedLoop (fun i => if i + 2 ≤ 7 then i + 2 else i) 8 0 = (4, 6) := by decide
/-- lexer shape is needed: a stray `CommentContents` closes a node that was never opened -/
example : depthAfter 0 (skipTrivia 67 ⟨[.contents], 0, []⟩).out.reverse = none := by decide

end CapyV.C23
