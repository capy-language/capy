import CapyV.Proofs.Checks
/-!
# C10 — out-of-range indexing and wrong `#unwrap` abort before touching memory

About the instruction plans of `Model/Checks.lean` (`runIndex`, `runSliceIndex`, `runUnwrap`). `indexValue` is the
index as the program typed it, read unsigned; `idxBits ≤ 64` says that zero-extension to pointer width loses nothing.
-/
namespace CapyV.C10
open CapyV.Checks

/-- **Out of range ⇒ abort before any access to the array.** -/
theorem index_oob_aborts_before_access (p : IndexPlan) (pattern : Nat) (hb : p.idxBits ≤ 64)
    (h : p.len ≤ indexValue p.idxBits pattern) : runIndex p pattern = .abort [] := by
  unfold runIndex
  simp only [widen_exact _ _ hb]
  simp [Nat.not_lt.mpr h]

/-- **In range ⇒ exactly that element**, inside the array, given `size ≤ stride` (C17). -/
theorem index_in_range_exact (p : IndexPlan) (pattern : Nat) (hb : p.idxBits ≤ 64)
    (h : indexValue p.idxBits pattern < p.len) (hs : p.elemSize ≤ p.stride) :
    ∃ acc, runIndex p pattern = .ok acc ∧
      (p.addressOnly = false → acc = [(p.base + indexValue p.idxBits pattern * p.stride, p.elemSize)]) ∧
      ∀ a ∈ acc, p.base ≤ a.1 ∧ a.1 + a.2 ≤ p.base + p.len * p.stride := by
  unfold runIndex
  simp only [widen_exact _ _ hb, h, if_true]
  refine ⟨_, rfl, ?_, ?_⟩
  · intro ha
    simp [ha]
  · intro a ha
    cases hao : p.addressOnly <;> simp [hao] at ha
    subst ha
    have := elem_inside h hs
    exact ⟨Nat.le_add_right _ _, by simp only; omega⟩

/-- slices: the only accesses before the abort are the two reads of the slice header -/
theorem slice_oob_aborts_before_access (p : SlicePlan) (pattern : Nat) (hb : p.idxBits ≤ 64)
    (h : p.len ≤ indexValue p.idxBits pattern) :
    runSliceIndex p pattern = .abort [(p.hdr, p.ptrBytes), (p.hdr + p.ptrBytes, p.ptrBytes)] := by
  unfold runSliceIndex
  simp only [widen_exact _ _ hb]
  simp [Nat.not_lt.mpr h]

theorem slice_in_range_exact (p : SlicePlan) (pattern : Nat) (hb : p.idxBits ≤ 64)
    (h : indexValue p.idxBits pattern < p.len) (hs : p.elemSize ≤ p.stride) (hl : p.addressOnly = false) :
    runSliceIndex p pattern = .ok [(p.hdr, p.ptrBytes), (p.hdr + p.ptrBytes, p.ptrBytes),
      (p.dataPtr + indexValue p.idxBits pattern * p.stride, p.elemSize)] ∧
    p.dataPtr + indexValue p.idxBits pattern * p.stride + p.elemSize ≤ p.dataPtr + p.len * p.stride := by
  unfold runSliceIndex
  simp only [widen_exact _ _ hb, h, if_true, hl]
  refine ⟨by simp, ?_⟩
  have := elem_inside h hs
  omega

/-- **`#unwrap` of a value whose variant differs aborts**, having read only the tag byte. -/
theorem unwrap_wrong_variant_aborts (value tag discOff wanted : Nat) (htag : tag < 256) (hw : wanted < 256)
    (h : tag ≠ wanted) :
    runUnwrap ⟨.tagged discOff wanted, value, tag⟩ = (.abort [(value + discOff, 1)], none) := by
  simp [runUnwrap, Nat.mod_eq_of_lt htag, Nat.mod_eq_of_lt hw, h]

theorem unwrap_right_variant_yields_payload (value tag discOff : Nat) :
    runUnwrap ⟨.tagged discOff tag, value, tag⟩ = (.ok [(value + discOff, 1)], some value) := by
  simp [runUnwrap]

/-- nullable pointers: `#unwrap(p, ^T)` of null aborts without touching memory; non-null passes -/
theorem unwrap_nullable (value : Nat) :
    (value = 0 → runUnwrap ⟨.nullableSome, value, 0⟩ = (.abort [], none)) ∧
    (value ≠ 0 → runUnwrap ⟨.nullableSome, value, 0⟩ = (.ok [], some value)) ∧
    (value ≠ 0 → runUnwrap ⟨.nullableNil, value, 0⟩ = (.abort [], none)) := by
  refine ⟨?_, ?_, ?_⟩ <;> intro h <;> simp [runUnwrap, h]

/-- a literal index that is out of range for a fixed-size array is rejected at compile time;
the rule fires only for a bare integer literal (so `arr[(5)]` is left to the run-time check) -/
theorem literal_oob_rejected (index size : Nat) :
    (literalIndexRejected true index size = true ↔ size ≤ index) ∧
    literalIndexRejected false index size = false := by
  simp [literalIndexRejected]

example : runIndex ⟨8, 1000, 3, 8, 5, false⟩ 2 = .ok [(1016, 5)] := by decide
example : runIndex ⟨8, 1000, 3, 8, 5, false⟩ 3 = .abort [] := by decide
example : runIndex ⟨8, 1000, 3, 8, 5, false⟩ 255 = .abort [] := by decide
example : runUnwrap ⟨.tagged 4 1, 2000, 0⟩ = (.abort [(2004, 1)], none) := by decide

end CapyV.C10
