import CapyV.Proofs.Imports
/-!
# C28 — imports resolve to the right files and each file is compiled once

The model is `CapyV/Model/Imports.lean` (+ `ImportsCli.lean`); the file system is a parameter
(`FS = Path → Option Kind`, any function), the import graph is induced by the directives.
`clean_has_no_dotdot`, `subdir_without_clean_unsound` and `subdir_after_clean_is_real` also exist
in `CapyV.Imports` (the last only as the `→` half): unqualified they mean the ones of this
namespace.
-/
namespace CapyV.C28
open CapyV.Imports

/-- **What `lower_import` checks, exactly.** `#import(arg)` in file `importer` is accepted
with target `p` iff the argument (after `\` → `/`) ends in `.capy`, `p` is the cleaned
`cwd/importer/../arg`, `p` is a regular file, and `p` has the module directory or the working
directory as a component-wise prefix. -/
theorem import_accept_iff (env : Env) (importer : Path) (arg : List Char) (p : Path) :
    lowerImport env importer arg = .ok p ↔
      endsCapy (fixSep arg) = true ∧ p = importTarget env importer arg ∧
      env.fs p = some .file ∧ (isSubDirOf p env.modDir = true ∨ isSubDirOf p env.cwd = true) :=
  lowerImport_ok_iff env importer arg p

/-- The rejections, in the order of the code, with their diagnostic kinds: not `.capy`;
missing (or not a regular file); outside both directories. Together with
`import_accept_iff` this covers every case. -/
theorem import_reject_kinds (env : Env) (importer : Path) (arg : List Char) :
    (endsCapy (fixSep arg) = false →
      lowerImport env importer arg = .err .importMustEndInDotCapy) ∧
    (endsCapy (fixSep arg) = true → env.fs (importTarget env importer arg) ≠ some .file →
      lowerImport env importer arg = .err (.importDoesNotExist (importTarget env importer arg))) ∧
    (endsCapy (fixSep arg) = true → env.fs (importTarget env importer arg) = some .file →
      isSubDirOf (importTarget env importer arg) env.modDir = false →
      isSubDirOf (importTarget env importer arg) env.cwd = false →
      lowerImport env importer arg = .err (.importOutsideCWD (importTarget env importer arg))) := by
  refine ⟨?_, ?_, ?_⟩
  · intro h; simp [lowerImport, h]
  · intro h1 h2; simp [lowerImport, isFile, h1, h2]
  · intro h1 h2 h3 h4; simp [lowerImport, isFile, h1, h2, h3, h4]

/-- **Resolved relative to the importing file's directory.** For an importing file with a
cleaned absolute name (every `FileName` is one, see `parsed_files_clean_inside`) and a
relative argument, the target is the absolute path reached by walking the argument's
components from the directory that contains the importing file (`..` goes up and stays at
`/`, `.` stays); the working directory plays no role. -/
theorem import_resolves_relative_to_importing_dir (env : Env) (importer : Path) (arg : List Char)
    (hi : IsCleanAbs importer) (ha : hasRoot (fixSep arg) = false) :
    importTarget env importer arg =
      Comp.root :: (walkFrom (walk importer).dropLast (parse (fixSep arg))).map Comp.normal :=
  importTarget_rel env importer arg hi ha

/-- An absolute argument denotes itself (cleaned). -/
theorem import_absolute_arg (env : Env) (importer : Path) (arg : List Char)
    (ha : hasRoot (fixSep arg) = true) :
    importTarget env importer arg = Comp.root :: (walk (parse (fixSep arg))).map Comp.normal :=
  importTarget_abs env importer arg ha

/-- `path_clean::clean` on an absolute path removes every `.` and `..`. -/
theorem clean_has_no_dotdot (p : Path) (h : IsAbs p) :
    Comp.parent ∉ clean p ∧ Comp.cur ∉ clean p :=
  CapyV.Imports.clean_has_no_dotdot p h

/-- `path_clean::clean` on an absolute path yields exactly the place its walk ends at. -/
theorem clean_is_the_walk (p : Path) (h : IsAbs p) :
    clean p = Comp.root :: (walk p).map Comp.normal :=
  clean_abs_eq_walk p h

/-- **The prefix test after cleaning is real containment**: a cleaned absolute path passes
`is_sub_dir_of base` iff the place it denotes is `base` or below it — no `..` can escape. -/
theorem subdir_after_clean_is_real (p base : Path) (hp : IsAbs p) (hb : IsCleanAbs base) :
    isSubDirOf (clean p) base = true ↔ ∃ rel : List (List Char), walk p = walk base ++ rel :=
  (subdir_after_clean_iff p base hp hb).trans
    ⟨fun ⟨rel, h⟩ => ⟨rel, h.symm⟩, fun ⟨rel, h⟩ => ⟨rel, h.symm⟩⟩

/-- Without the `clean()` the same test would be wrong (`/w/../etc` has prefix `/w`). -/
theorem subdir_without_clean_unsound :
    ∃ p base : Path, IsAbs p ∧ IsCleanAbs base ∧ isSubDirOf p base = true ∧
      ¬ ∃ rel, walk p = walk base ++ rel :=
  CapyV.Imports.subdir_without_clean_unsound

/-- An accepted import really lies in (or below) the module directory or the working
directory, and its name's last component ends in `.capy`. -/
theorem import_accepted_really_inside (env : Env) (importer : Path) (arg : List Char) (p : Path)
    (hc : IsCleanAbs env.cwd) (hm : IsCleanAbs env.modDir) (hi : IsCleanAbs importer)
    (h : lowerImport env importer arg = .ok p) :
    IsCleanAbs p ∧ env.fs p = some .file ∧
    ((∃ rel, walk p = walk env.modDir ++ rel) ∨ (∃ rel, walk p = walk env.cwd ++ rel)) ∧
    (∃ n, (parse (fixSep arg)).getLast? = some (Comp.normal n) ∧ endsCapy n = true) := by
  obtain ⟨h1, h2, h3, h4⟩ := (import_accept_iff env importer arg p).mp h
  have hp : IsCleanAbs p := h2 ▸ importTarget_isCleanAbs env importer arg hi
  have hcl : clean p = p := clean_of_isCleanAbs p hp
  refine ⟨hp, h3, ?_, endsCapy_last_comp _ h1⟩
  rcases h4 with h4 | h4
  · rw [← hcl] at h4
    exact .inl (CapyV.Imports.subdir_after_clean_is_real p _ hp.isAbs hm h4)
  · rw [← hcl] at h4
    exact .inr (CapyV.Imports.subdir_after_clean_is_real p _ hp.isAbs hc h4)

/-- **What `lower_import(is_mod)` checks, exactly.** -/
theorem mod_accept_iff (env : Env) (m : List Char) (p : Path) :
    lowerMod env m = .ok p ↔
      (fixSep m).all isAsciiAlnum = true ∧ env.fs (modFolder env m) = some .dir ∧
      env.fs (modTarget env m) = some .file ∧ p = modTarget env m :=
  lowerMod_ok_iff env m p

/-- Together with `mod_accept_iff` this covers every case. -/
theorem mod_reject_kinds (env : Env) (m : List Char) :
    ((fixSep m).all isAsciiAlnum = false → lowerMod env m = .err .modMustBeAlphanumeric) ∧
    ((fixSep m).all isAsciiAlnum = true → env.fs (modFolder env m) ≠ some .dir →
      lowerMod env m = .err .modDoesNotExist) ∧
    ((fixSep m).all isAsciiAlnum = true → env.fs (modFolder env m) = some .dir →
      env.fs (modTarget env m) ≠ some .file → lowerMod env m = .err .modDoesNotContainModFile) := by
  refine ⟨?_, ?_, ?_⟩
  · intro h; simp [lowerMod, h]
  · intro h1 h2; simp [lowerMod, isDir, h1, h2]
  · intro h1 h2 h3; simp [lowerMod, isDir, isFile, h1, h2, h3]

/-- Well-formed file system: whatever exists lives in a directory.  Only the `←` direction of
`mod_accept_iff_property` needs it: the code also tests that `<mod-dir>/m/src` is a directory,
which the property's wording leaves out. -/
def FSWF (fs : FS) : Prop :=
  ∀ (d : Path) (c : Comp) (k : Kind), fs (d ++ [c]) = some k → fs d = some .dir

/-- **The property's wording**: for a non-empty name (the empty one is `mod_empty_name`),
`#mod("m")` is accepted iff `m` is ASCII-alphanumeric and `<mod-dir>/m/src/mod.capy` is a file;
the target is that file. -/
theorem mod_accept_iff_property (env : Env) (m : List Char) (hne : m ≠ [])
    (hmd : IsCleanAbs env.modDir) (hfs : FSWF env.fs) :
    (∃ p, lowerMod env m = .ok p) ↔
      m.all isAsciiAlnum = true ∧
      env.fs (env.modDir ++ [Comp.normal m, Comp.normal srcName, Comp.normal modCapy]) = some .file := by
  constructor
  · rintro ⟨p, h⟩
    obtain ⟨h1, _, h3, _⟩ := (mod_accept_iff env m p).mp h
    have hal := all_alnum_fixSep m ▸ h1
    rw [(modPaths_nonempty env m hal hne hmd).2] at h3
    exact ⟨hal, h3⟩
  · rintro ⟨hal, hf⟩
    obtain ⟨e1, e2⟩ := modPaths_nonempty env m hal hne hmd
    refine ⟨modTarget env m, (mod_accept_iff env m _).mpr ⟨(all_alnum_fixSep m).trans hal, ?_, ?_, rfl⟩⟩
    · rw [e1]
      have := hfs (env.modDir ++ [Comp.normal m, Comp.normal srcName]) (Comp.normal modCapy) .file
        (by simpa using hf)
      exact this
    · rw [e2]; exact hf

/-- accepted module target: `<mod-dir>/m/src/mod.capy`, literally -/
theorem mod_target_is_mod_capy (env : Env) (m : List Char) (p : Path) (hne : m ≠ [])
    (hmd : IsCleanAbs env.modDir) (h : lowerMod env m = .ok p) :
    p = env.modDir ++ [Comp.normal m, Comp.normal srcName, Comp.normal modCapy] := by
  obtain ⟨h1, _, _, h4⟩ := (mod_accept_iff env m p).mp h
  rw [h4, (modPaths_nonempty env m (all_alnum_fixSep m ▸ h1) hne hmd).2]

/-- **The alphanumeric check is vacuous for the empty name**: `#mod("")` is accepted exactly
when `<mod-dir>/src` is a directory and `<mod-dir>/src/mod.capy` is a file (the path
`<mod-dir>//src/mod.capy` of the property's wording). -/
theorem mod_empty_name (env : Env) (hmd : IsCleanAbs env.modDir) :
    (∃ p, lowerMod env [] = .ok p) ↔
      env.fs (env.modDir ++ [Comp.normal srcName]) = some .dir ∧
      env.fs (env.modDir ++ [Comp.normal srcName, Comp.normal modCapy]) = some .file := by
  obtain ⟨e1, e2, _⟩ := modPaths env [] rfl hmd
  simp only [show parse [] = [] from rfl, List.append_nil] at e1 e2
  constructor
  · rintro ⟨p, h⟩
    obtain ⟨_, h2, h3, _⟩ := (mod_accept_iff env [] p).mp h
    rw [e1] at h2
    rw [e2] at h3
    exact ⟨h2, h3⟩
  · rintro ⟨h2, h3⟩
    refine ⟨modTarget env [], (mod_accept_iff env [] _).mpr ⟨by decide, ?_, ?_, rfl⟩⟩
    · rw [e1]
      exact h2
    · rw [e2]
      exact h3

/-- **Every reachable file is parsed, nothing else, nothing twice** — for every import graph
over a finite set of files `U` (closed under imports), with cycles and self-imports, and for
every iteration order `ord` of the `current_imports` hash set. The entry file comes first. -/
theorem worklist_parses_each_reachable_once (env : Env) (src : Path → List Directive)
    (ord : List Path → List Path) (hord : ∀ l x, x ∈ ord l ↔ x ∈ l)
    (U : List Path) (entry : Path) (hU : entry ∈ U)
    (hclosed : ∀ a ∈ U, ∀ b ∈ importsOf env src a, b ∈ U)
    (fuel : Nat) (hfuel : U.length + 1 ≤ fuel) :
    ∃ res, compileFile env src ord fuel entry = some res ∧ res.Nodup ∧
      res.head? = some entry ∧ ∀ f, f ∈ res ↔ Reach (importsOf env src) entry f :=
  let ⟨res, h, hres⟩ := worklist_spec (importsOf env src) ord hord U entry hU hclosed
  ⟨res, h fuel hfuel, hres⟩

/-- **Termination**: `|U| + 1` iterations of the `while` loop always suffice (each round
parses a new file or empties `current_imports`), and more fuel does not change the answer. -/
theorem worklist_terminates (env : Env) (src : Path → List Directive)
    (ord : List Path → List Path) (hord : ∀ l x, x ∈ ord l ↔ x ∈ l)
    (U : List Path) (entry : Path) (hU : entry ∈ U)
    (hclosed : ∀ a ∈ U, ∀ b ∈ importsOf env src a, b ∈ U)
    (f1 f2 : Nat) (h1 : U.length + 1 ≤ f1) (h2 : U.length + 1 ≤ f2) :
    (compileFile env src ord f1 entry).isSome ∧
    compileFile env src ord f1 entry = compileFile env src ord f2 entry := by
  obtain ⟨res, h, _⟩ := worklist_spec (importsOf env src) ord hord U entry hU hclosed
  unfold compileFile
  rw [h f1 h1, h f2 h2]
  exact ⟨rfl, rfl⟩

/-- whenever the loop finishes: each reachable file exactly once, every other file never
(`List.count` is by definition this `countP`) -/
theorem each_file_compiled_exactly_once (env : Env) (src : Path → List Directive)
    (ord : List Path → List Path) (hord : ∀ l x, x ∈ ord l ↔ x ∈ l)
    (entry : Path) (fuel : Nat) (res : List Path)
    (h : compileFile env src ord fuel entry = some res) :
    (∀ f, Reach (importsOf env src) entry f → res.countP (fun x => decide (x = f)) = 1) ∧
    (∀ f, ¬ Reach (importsOf env src) entry f → res.countP (fun x => decide (x = f)) = 0) :=
  worklist_count_one (importsOf env src) ord hord entry fuel res h

/-- the import edges are exactly the accepted directives -/
theorem import_edge_iff (env : Env) (src : Path → List Directive) (f p : Path) :
    p ∈ importsOf env src f ↔ ∃ d ∈ src f, lower env f d = .ok p :=
  mem_importsOf env src f p

/-- Every parsed file has a cleaned absolute name, and every parsed file except possibly
the entry file lies inside the working or the module directory. -/
theorem parsed_files_clean_inside (env : Env) (src : Path → List Directive) (entry f : Path)
    (hmd : IsCleanAbs env.modDir) (he : IsCleanAbs entry)
    (h : Reach (importsOf env src) entry f) :
    IsCleanAbs f ∧ (f = entry ∨ insideCwdOrMod env f = true) := by
  induction h with
  | refl => exact ⟨he, Or.inl rfl⟩
  | step _ hb ih =>
    obtain ⟨d, _, hl⟩ := (mem_importsOf env src _ _).mp hb
    have := lower_ok_inside env _ d _ hmd ih.1 hl
    exact ⟨this.2, Or.inr this.1⟩

/-- **The `unreachable!()` of `FileName::get_components` is reached iff the entry file itself
is outside** both directories (imports can never bring such a file in). -/
theorem cli_panics_iff_entry_outside (env : Env) (src : Path → List Directive)
    (ord : List Path → List Path) (hord : ∀ l x, x ∈ ord l ↔ x ∈ l)
    (U : List Path) (entry : Path) (hU : entry ∈ U)
    (hclosed : ∀ a ∈ U, ∀ b ∈ importsOf env src a, b ∈ U)
    (fuel : Nat) (hfuel : U.length + 1 ≤ fuel)
    (hmd : IsCleanAbs env.modDir) (he : IsCleanAbs entry) :
    ∃ res, compileFile env src ord fuel entry = some res ∧
      cli env src ord fuel entry =
        (if insideCwdOrMod env entry then .parsed res else .panicOutside entry res) := by
  obtain ⟨res, h, _, hhead, hmem⟩ := worklist_spec (importsOf env src) ord hord U entry hU hclosed
  have h' : compileFile env src ord fuel entry = some res := h fuel hfuel
  refine ⟨res, h', ?_⟩
  unfold cli
  rw [h']
  by_cases hin : insideCwdOrMod env entry = true
  · have : res.find? (fun f => !insideCwdOrMod env f) = none := by
      rw [List.find?_eq_none]
      intro f hf
      rcases (parsed_files_clean_inside env src entry f hmd he ((hmem f).mp hf)).2 with e | e
      · subst e; simp [hin]
      · simp [e]
    simp [this, hin]
  · -- the entry file is the first one parsed, so it is the one found
    obtain ⟨tl, rfl⟩ := List.head?_eq_some_iff.1 hhead
    simp [hin]

/-- **`file.name` refers to that file's own definition**: in the world built from the parsed
files, the entry for a file is that file's own definitions — for every parsed file, and there
is no entry for any other file. -/
theorem file_name_refers_to_own_definition {δ : Type} (defs : Path → δ) (parsed : List Path)
    (f : Path) :
    (world defs parsed).lookup f = if f ∈ parsed then some (defs f) else none := by
  induction parsed with
  | nil => simp [world]
  | cons g gs ih =>
    unfold world at *
    simp only [List.map_cons, List.lookup_cons]
    by_cases hfg : f = g
    · subst hfg; simp
    · have : (f == g) = false := by simpa using hfg
      simp [this, ih, hfg]

/-- An accepted `alias :: #import(..)` / `#mod(..)` written in a reachable file denotes,
via `alias.name`, the definitions of the directive's target file. -/
theorem alias_refers_to_target_definition {δ : Type} (defs : Path → δ) (env : Env)
    (src : Path → List Directive) (ord : List Path → List Path)
    (hord : ∀ l x, x ∈ ord l ↔ x ∈ l) (entry : Path) (fuel : Nat) (res : List Path)
    (h : compileFile env src ord fuel entry = some res)
    (g : Path) (hg : g ∈ res) (d : Directive) (hd : d ∈ src g) (t : Path)
    (ht : lower env g d = .ok t) :
    aliasLookup env (world defs res) g d = some (defs t) := by
  obtain ⟨_, _, hmem⟩ := worklist_sound (importsOf env src) ord hord entry fuel res h
  have hgr := (hmem g).mp hg
  have htr : t ∈ res := (hmem t).mpr (.step hgr ((mem_importsOf env src g t).mpr ⟨d, hd, ht⟩))
  unfold aliasLookup
  rw [ht]
  simp [file_name_refers_to_own_definition, htr]

/-! ## Non-vacuity: a concrete tree

`/r/w` is the working directory, `/r/mods` the module directory.
`/r/w/main.capy` imports `d/a.capy`, `./d/../b.capy`, itself, `../x.capy` (outside),
`nope.capy` (missing), `t.txt`, `#mod("m")`, `#mod("")`, `#mod("a-b")`;
`/r/w/d/a.capy` imports `../main.capy` (cycle) and `a.capy` (self); `/r/w/b.capy` imports `d/a.capy`. -/

def exFs : FS := fun p =>
  if p = parse "/r/w/main.capy".toList ∨ p = parse "/r/w/d/a.capy".toList ∨
     p = parse "/r/w/b.capy".toList ∨ p = parse "/r/x.capy".toList ∨
     p = parse "/r/w/t.txt".toList ∨ p = parse "/r/mods/m/src/mod.capy".toList then some .file
  else if p = parse "/r/mods/m/src".toList ∨ p = parse "/r/w".toList ∨ p = parse "/r/w/d".toList then some .dir
  else none

def exEnv : Env := mkEnv (parse "/r/w".toList) "../mods".toList exFs

def exSrc : Path → List Directive := fun p =>
  if p = parse "/r/w/main.capy".toList then
    [.imp "d/a.capy".toList, .imp "./d/../b.capy".toList, .imp "main.capy".toList,
     .imp "../x.capy".toList, .imp "nope.capy".toList, .imp "t.txt".toList,
     .mod "m".toList, .mod "".toList, .mod "a-b".toList]
  else if p = parse "/r/w/d/a.capy".toList then [.imp "../main.capy".toList, .imp "a.capy".toList]
  else if p = parse "/r/w/b.capy".toList then [.imp "d/a.capy".toList]
  else []

/- Decoding a string literal is by far the dearest step of evaluating these in the kernel
(UTF-8 bytes back to characters), and `exFs` alone would decode nine per call: each proof first
turns the literals it meets into character lists, once, and evaluates after that. -/
example : exEnv.modDir = parse "/r/mods".toList := by
  unfold exEnv
  dsimp only [String.reduceToList]
  decide
example : (exSrc (parse "/r/w/main.capy".toList)).map (lower exEnv (parse "/r/w/main.capy".toList)) =
    [.ok (parse "/r/w/d/a.capy".toList), .ok (parse "/r/w/b.capy".toList),
     .ok (parse "/r/w/main.capy".toList), .err (.importOutsideCWD (parse "/r/x.capy".toList)),
     .err (.importDoesNotExist (parse "/r/w/nope.capy".toList)), .err .importMustEndInDotCapy,
     .ok (parse "/r/mods/m/src/mod.capy".toList), .err .modDoesNotExist,
     .err .modMustBeAlphanumeric] := by
  unfold exSrc exEnv exFs
  dsimp only [String.reduceToList]
  decide
example : compileFile exEnv exSrc id 8 (entryOf exEnv.cwd "main.capy".toList) =
    some [parse "/r/w/main.capy".toList, parse "/r/w/d/a.capy".toList, parse "/r/w/b.capy".toList,
          parse "/r/mods/m/src/mod.capy".toList] := by
  unfold exSrc exEnv exFs
  dsimp only [String.reduceToList]
  decide
-- no directive is lowered here, so `exFs` is never consulted and stays folded
example : cli exEnv exSrc id 8 (entryOf exEnv.cwd "../x.capy".toList) =
    .panicOutside (parse "/r/x.capy".toList) [parse "/r/x.capy".toList] := by
  unfold exEnv
  dsimp only [String.reduceToList]
  decide
example : IsCleanAbs exEnv.cwd ∧ IsCleanAbs exEnv.modDir := by
  unfold exEnv
  dsimp only [String.reduceToList]
  exact ⟨⟨[['r'], ['w']], by decide⟩, ⟨[['r'], ['m', 'o', 'd', 's']], by decide⟩⟩

end CapyV.C28

namespace CapyV.Imports

/-! ## Non-vacuity of the worklist theorems: a graph with a self-import, a cycle and an
unreachable file -/

def exImps : Nat → List Nat
  | 0 => [1, 0]
  | 1 => [2, 0]
  | 2 => [1, 5]
  | 7 => [0]
  | _ => []

example : worklist exImps id 6 0 = some [0, 1, 2, 5] := by decide
example : worklist exImps List.reverse 6 0 = some [0, 1, 2, 5] := by decide
/-- four iterations are needed here (three rounds and the final emptiness test) -/
example : worklist exImps id 4 0 = some [0, 1, 2, 5] := by decide
example : worklist exImps id 3 0 = none := by decide
/-- the bound `U.length + 1` is tight: `U = [0]`, `0 → [0]` needs fuel 2 -/
example : worklist (fun _ : Nat => [0]) id 1 0 = none ∧
    worklist (fun _ : Nat => [0]) id 2 0 = some [0] := by decide
example : ([0, 1, 2, 5, 7] : List Nat).length + 1 ≤ 6 := by decide
example : ∀ a ∈ ([0, 1, 2, 5, 7] : List Nat), ∀ b ∈ exImps a, b ∈ [0, 1, 2, 5, 7] := by decide

/-- the hypotheses of `worklist_spec` are satisfiable -/
example : ∃ res, worklist exImps id 6 0 = some res ∧ res.Nodup ∧ res.head? = some 0 ∧
    ∀ f, f ∈ res ↔ Reach exImps 0 f :=
  let ⟨res, h, hres⟩ :=
    worklist_spec exImps id (fun _ _ => Iff.rfl) [0, 1, 2, 5, 7] 0 (by decide) (by decide)
  ⟨res, h 6 (by decide), hres⟩

example : ∃ res, worklist exImps List.reverse 6 0 = some res ∧ res.Nodup ∧
    res.head? = some 0 ∧ ∀ f, f ∈ res ↔ Reach exImps 0 f :=
  let ⟨res, h, hres⟩ := worklist_spec exImps List.reverse (fun _ _ => List.mem_reverse)
    [0, 1, 2, 5, 7] 0 (by decide) (by decide)
  ⟨res, h 6 (by decide), hres⟩

/-- the unreachable file `7` is not parsed, `5` is -/
example : ¬ Reach exImps 0 7 := by
  intro h
  have := (worklist_sound exImps id (fun _ _ => Iff.rfl) 0 6 [0, 1, 2, 5] (by decide)).2.2 7
  exact absurd (this.2 h) (by decide)

example : Reach exImps 0 5 :=
  ((worklist_sound exImps id (fun _ _ => Iff.rfl) 0 6 [0, 1, 2, 5] (by decide)).2.2 5).1
    (by decide)

end CapyV.Imports
