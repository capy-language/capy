import CapyV.Proofs.Stores
/-!
# C02 — writing one value never changes any other value (store footprints)

The code generator's stores for `dst = value` stay inside the destination's own bytes
`[0, size dst)`; hence (by C17: fields and elements do not overlap) inside the field or
element being assigned, and no other live value is touched. The value semantics of the
property (aggregates are copied; a write through one copy is invisible through another) is
`Props/C02Copy.lean`.
-/
namespace CapyV.C02
open CapyV CapyV.Layout CapyV.Stores

/-- same-type stores (scalars and aggregate copies) write exactly the value's own bytes -/
theorem same_within (pw : Nat) (dst : Ty) : within 0 (size pw dst) (footprint pw dst .same) := by
  simpa [footprint] using whole_within (size pw dst)

/-- variant → enum: payload bytes and the tag byte, all inside the enum (`size = tag offset + 1`),
provided the payload is one of the enum's variants (so its size is at most the tag offset) -/
theorem variant_within (pw uid : Nat) (vs : Tys) (p : Ty) (hp : p ∈ vs.toList) :
    within 0 (size pw (.enum uid vs)) (footprint pw (.enum uid vs) (.variant p)) :=
  tagged_within (d := (variantsMax pw vs 0 1).1) rfl (variantsMax_fst_bound pw vs 0 1 p hp)

/-- payload → optional (not a pointer): payload bytes and the tag byte right after them -/
theorem optional_payload_within (pw : Nat) (sub : Ty) (h : sub.isPointer = false) :
    within 0 (size pw (.optional sub)) (footprint pw (.optional sub) (.payload sub)) := by
  have hd := optional_discriminantOffset pw sub h
  simpa [footprint, hd] using tagged_within hd (Nat.le_refl _)

/-- `nil` → optional writes only the tag byte -/
theorem optional_nil_within (pw : Nat) (sub : Ty) (h : sub.isPointer = false) :
    footprint pw (.optional sub) .nilValue = [(size pw sub, 1)] ∧
    within 0 (size pw (.optional sub)) (footprint pw (.optional sub) .nilValue) := by
  have hd := optional_discriminantOffset pw sub h
  have hf : footprint pw (.optional sub) .nilValue = [(size pw sub, 1)] := by simp [footprint, hd]
  rw [hf, size_of_discriminantOffset hd]
  refine ⟨rfl, fun s hs => ?_⟩
  cases List.mem_singleton.1 hs
  simp

/-- payload → error union (either side): payload bytes and the tag after the larger side -/
theorem error_union_within (pw : Nat) (e p x : Ty) (hx : x = e ∨ x = p) :
    within 0 (size pw (.errorUnion e p)) (footprint pw (.errorUnion e p) (.payload x)) :=
  tagged_within (d := max (size pw e) (size pw p)) rfl (by rcases hx with rfl | rfl <;> omega)

/-- a store into the field at offset `o` stays inside that field -/
theorem shift_within (o n : Nat) (fp : List Store) (h : within 0 n fp) : within o (o + n) (shift o fp) := by
  intro s hs
  simp only [shift, List.mem_map] at hs
  obtain ⟨t, ht, rfl⟩ := hs
  have := h t ht
  simp
  omega

/-- **What was wrong before the `fix:` commit**: the 8-byte tag store of
`E.B.(3)` into `enum { A: i32, B: u8, C }` (size 5) reached 7 bytes past the enum … -/
theorem old_enum_tag_overwide :
    let e : Ty := .enum 1 (.cons (.enumVariant 1 0 1 (.iint 32) 0) (.cons (.enumVariant 1 1 2 (.uint 8) 1)
      (.cons (.enumVariant 1 2 3 .void 2) .nil)))
    size 64 e = 5 ∧ footprintOldVariant 64 e (.uint 8) = [(0, 1), (4, 8)] ∧
      ¬ within 0 (size 64 e) (footprintOldVariant 64 e (.uint 8)) :=
  ⟨by decide, by decide, fun h => absurd (h (4, 8) (by decide)) (by decide)⟩

/-- … and copying `struct { a: u64, b: u8 }` (size 9, stride 16) wrote 7 bytes past the value. -/
theorem old_aggregate_copy_overwide :
    let t : Ty := .anonStruct (.cons 0 (.uint 64) (.cons 1 (.uint 8) .nil))
    size 64 t = 9 ∧ footprintOldSame 64 t = [(0, 16)] ∧ ¬ within 0 (size 64 t) (footprintOldSame 64 t) :=
  ⟨by decide, by decide, fun h => absurd (h (0, 16) (by decide)) (by decide)⟩

example : footprint 64 (.optional (.uint 16)) (.payload (.uint 16)) = [(0, 2), (2, 1)] := by decide
example : footprint 64 (.optional (.uint 16)) .nilValue = [(2, 1)] := by decide

end CapyV.C02
