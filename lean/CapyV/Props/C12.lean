import CapyV.Proofs.TyRel.Max
/-!
# C12 — implicit conversion is consistent, order-independent and weaker than casting

Statements about the transcription `CapyV.Ty.{canFitInto, canCastTo, isWeakReplaceableBy, maxTy}`
(`Model/TyRel.lean`) of `hir::common::Ty::{can_fit_into, can_cast_to, is_weak_replaceable_by,
max}`, for ALL types (no depth bound).  `accepts found expected` is what `expect_match` accepts
for a concrete expected type (`can_fit_into`, plus zero-sized values where `type` is expected).

Two laws hold in full (`fit_refl`, `fit_imp_cast`).  Three are FALSE of the current code; each has
a `_counterexample` at a concrete witness and a `_partial` theorem under an explicit decidable
guard (`elemEquivFits`, `maxPlain`, `commOk`, all defined in `Model/TyRel.lean`).
-/
namespace CapyV.C12
open CapyV CapyV.Ty

/-- A value of type `A` is accepted where `A` is expected. -/
theorem fit_refl (a : Ty) : canFitInto a a = true := canFitInto_refl a

/-- Implicitly accepted ⇒ the explicit cast is accepted. -/
theorem fit_imp_cast (a b : Ty) (h : canFitInto a b = true) : canCastTo a b = true :=
  canCastTo_of_fit h

def S1 : Ty := .concreteStruct 1 (.cons 100 (.iint 32) .nil)
def S2 : Ty := .concreteStruct 2 (.cons 100 (.iint 32) .nil)

/-- weak ⇒ fit, the law the compiler `assert!`s in `replace_weak_tys` / `expect_match`, is FALSE
in full: `.[ s1 ]` (an anonymous array of the named struct `S1`) can be specialised to
`[1]S2` for a structurally identical `S2`, but does not fit it.  The compiler panics on
`x : [1]S2 = .[ s1 ];` (corpus/probes/C12_weak_replaceable_not_fit_panic.capy). -/
theorem weak_imp_fit_counterexample :
    ¬ (∀ a b : Ty, isWeakReplaceableBy a b = true → canFitInto a b = true) := by
  intro h
  have hw : isWeakReplaceableBy (.anonArray 1 S1) (.concreteArray 1 S2) = true := by
    rw [isWeakReplaceableBy.eq_def]
    simp [isFuncEquiv, membersFuncEquiv, S1, S2, Members.length]
  have hf : canFitInto (.anonArray 1 S1) (.concreteArray 1 S2) = false := by
    rw [fit_anonArray_array, S1, S2, fit_struct_struct]
    rfl
  rw [h _ _ hw] at hf
  cases hf

/-- The law holds whenever every anonymous-array element that `is_weak_replaceable_by` accepts
through `is_functionally_equivalent_to` also fits (`elemEquivFits`). -/
theorem weak_imp_fit_partial (a b : Ty) (hg : elemEquivFits a b = true)
    (h : isWeakReplaceableBy a b = true) : canFitInto a b = true :=
  weak_fit a b hg h

def Df32 : Ty := .distinct 13 (.float 32)

/-- FALSE in full: `max(f64, distinct f32) = distinct f32`, which does not accept an `f64`
(the distinct arms of `max` test `has_semantics_of` from the distinct type to the other
operand, i.e. in the wrong direction).  `if c { f64 } else { d }` type-checks with type `D`. -/
theorem max_accepts_both_counterexample :
    ¬ (∀ (tbl : Nat → Option Ty) (a b m : Ty), TableOk tbl → maxTy tbl a b = .ok (some m) →
        accepts a m = true ∧ accepts b m = true) := by
  intro h
  have hm : maxTy (fun _ => none) (.float 64) Df32 = .ok (some Df32) := by
    rw [Df32, maxTy_distinct_right (by nofun)]
    simp [maxSide, hasSemanticsOf, fit_ff]
  have ha : accepts (.float 64) Df32 = false := by
    simp [accepts, Df32, fit_into_distinct, fit_ff]
  have htbl : TableOk fun _ => none := by
    intro u e he
    cases he
  have := (h (fun _ => none) _ _ _ htbl hm).1
  rw [ha] at this
  cases this

/-- With no `distinct` operand along the recursion of `max`, and no `type` answer below a
constructor (`maxPlain true`), the common type accepts both operands. -/
theorem max_accepts_both_partial (tbl : Nat → Option Ty) (htbl : TableOk tbl) (a b m : Ty)
    (hg : maxPlain true a b = true) (h : maxTy tbl a b = .ok (some m)) :
    accepts a m = true ∧ accepts b m = true := by
  simpa [acceptsIn, accepts] using maxTy_accepts htbl true a b m hg h

/-- below a type constructor even plain `can_fit_into` holds -/
theorem max_fits_both_nested (tbl : Nat → Option Ty) (htbl : TableOk tbl) (a b m : Ty)
    (hg : maxPlain false a b = true) (h : maxTy tbl a b = .ok (some m)) :
    canFitInto a m = true ∧ canFitInto b m = true := by
  simpa [acceptsIn] using maxTy_accepts htbl false a b m hg h

/-- FALSE in full (outside the property's stated quantifier: two internal marker types):
`max(Unknown, AlwaysJumps) = AlwaysJumps` but `max(AlwaysJumps, Unknown) = Unknown`. -/
theorem max_comm_counterexample :
    ¬ (∀ (tbl : Nat → Option Ty) (a b : Ty), maxTy tbl a b = maxTy tbl b a) := by
  intro h
  have hl : maxTy (fun _ => none) .unknown .alwaysJumps = .ok (some .alwaysJumps) := rfl
  have hr : maxTy (fun _ => none) .alwaysJumps .unknown = .ok (some .unknown) := rfl
  have := h (fun _ => none) .unknown .alwaysJumps
  rw [hl, hr] at this
  cases this

/-- `max` is symmetric — including its panics — for all operands that are not two different
marker types and not two different `distinct` types sharing a uid, along the recursion
(`commOk`; every pair of types of the property's quantifier with coherent uids satisfies it). -/
theorem max_comm_partial (tbl : Nat → Option Ty) (a b : Ty) (hg : commOk a b = true) :
    maxTy tbl a b = maxTy tbl b a :=
  maxTy_comm a b hg

example : isWeakReplaceableBy (.anonArray 2 (.uint 0)) (.optional (.concreteArray 2 (.iint 32))) = true := by
  simp [isWeakReplaceableBy]
example : elemEquivFits (.anonArray 2 (.uint 0)) (.optional (.concreteArray 2 (.iint 32))) = true := by
  simp [elemEquivFits, isFuncEquiv]
example : maxPlain true (.optional (.uint 8)) (.optional (.iint 32)) = true := by
  simp [maxPlain, isDistinct, yieldsTypeArm]
example : maxTy (fun _ => none) (.optional (.uint 8)) (.optional (.iint 32)) = .ok (some (.optional (.iint 32))) := by
  rw [maxTy_optional_optional, maxTy_ui]
  rfl
example : commOk (.optional (.uint 8)) (.errorUnion .string (.iint 32)) = true := by
  simp [commOk, isMarker]
example : TableOk (fun u => if u = 7 then some (.enum 7 .nil) else none) := by
  intro u e h
  by_cases hu : u = 7
  · subst hu
    simp at h
    exact ⟨.nil, h.symm⟩
  · simp [hu] at h

end CapyV.C12
