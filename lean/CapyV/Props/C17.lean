import CapyV.Proofs.Layout
/-!
# C17 — type layouts obey the documented representation rules

All statements are about `CapyV.Layout.layout` (the model of `calc_single`), for every
well-formed type (`wf`: integer widths in {0,8,16,32,64,128,255}, float widths in
{0,32,64}, recursively) and every supported pointer width (`okPw`: 16, 32, 64).
-/
namespace CapyV.C17
open CapyV CapyV.Layout

/-- Alignment is a power of two no larger than 8. -/
theorem align_pow2_le8 (pw : Nat) (hpw : okPw pw = true) (t : Ty) (h : wf t = true) :
    align pw t = 1 ∨ align pw t = 2 ∨ align pw t = 4 ∨ align pw t = 8 :=
  align_ok pw hpw t h

/-- Struct fields sit in declaration order at offsets that are multiples of their alignment,
without overlapping, inside the struct's size (`FieldsOk`), one offset per member. -/
theorem struct_fields_ok (pw : Nat) (hpw : okPw pw = true) (ms : Members) (h : wfMembers ms = true) :
    (structOffsets pw ms 0).length = ms.length ∧
    FieldsOk pw ms (structOffsets pw ms 0) 0 (size pw (.anonStruct ms)) ∧
    ∀ uid, size pw (.concreteStruct uid ms) = size pw (.anonStruct ms) ∧
           structOffsetsOf pw (.concreteStruct uid ms) = some (structOffsets pw ms 0) :=
  ⟨structOffsets_length pw ms 0, fields_ok pw hpw ms h 0 1, fun _ => ⟨rfl, rfl⟩⟩

/-- The struct's own alignment is a power of two no larger than 8. -/
theorem struct_align_pow2 (pw : Nat) (hpw : okPw pw = true) (ms : Members) (h : wfMembers ms = true) :
    Pow2Le8 (align pw (.anonStruct ms)) :=
  struct_align_ok pw hpw ms h 0 1 (.inl rfl)

/-- An array's size is length times element stride … -/
theorem array_size (pw n : Nat) (sub : Ty) :
    size pw (.concreteArray n sub) = strideOf pw sub * n ∧
    size pw (.anonArray n sub) = strideOf pw sub * n ∧
    align pw (.concreteArray n sub) = align pw sub :=
  ⟨rfl, rfl, rfl⟩

/-- … where the stride is the size rounded up to the alignment. -/
theorem stride_rounds_up (pw : Nat) (hpw : okPw pw = true) (t : Ty) (h : wf t = true)
    (hfit : size pw t + align pw t - 1 < 2 ^ 32) :
    strideOf pw t % align pw t = 0 ∧ size pw t ≤ strideOf pw t ∧
      strideOf pw t < size pw t + align pw t :=
  stride_spec (align_ok pw hpw t h) hfit

/-- Distinct types and enum variants have exactly their underlying type's size and alignment. -/
theorem distinct_same_layout (pw uid : Nat) (sub : Ty) :
    layout pw (.distinct uid sub) = layout pw sub := rfl

theorem variant_same_layout (pw eu n u d : Nat) (sub : Ty) :
    layout pw (.enumVariant eu n u sub d) = layout pw sub := rfl

/-- An optional of a pointer (also through distinct / variant wrappers) is exactly
pointer-sized and carries no tag. -/
theorem optional_pointer_is_pointer_sized (pw : Nat) (sub : Ty) (h : sub.isPointer = true) :
    size pw (.optional sub) = pw / 8 ∧ align pw (.optional sub) = min (pw / 8) 8 ∧
      discriminantOffsetOf pw (.optional sub) = none := by
  have hs := isPointer_layout pw sub h
  simp [size, align, layout, Ty.isNonZero, h, hs, discriminantOffsetOf, Ty.absoluteTy]

/-- Every other optional keeps its one-byte tag right after the payload. -/
theorem optional_tag_after_payload (pw : Nat) (sub : Ty) (h : sub.isPointer = false) :
    discriminantOffsetOf pw (.optional sub) = some (size pw sub) ∧
      size pw (.optional sub) = size pw sub + 1 ∧ align pw (.optional sub) = align pw sub :=
  have hd := optional_discriminantOffset pw sub h
  ⟨hd, size_of_discriminantOffset hd, by simp [align, layout, Ty.isNonZero, h]⟩

/-- An error union keeps its one-byte tag after the larger of error and payload. -/
theorem error_union_tag_after_payload (pw : Nat) (e p : Ty) :
    discriminantOffsetOf pw (.errorUnion e p) = some (max (size pw e) (size pw p)) ∧
      size pw (.errorUnion e p) = max (size pw e) (size pw p) + 1 :=
  ⟨rfl, size_of_discriminantOffset rfl⟩

/-- An enum keeps its one-byte tag after the largest variant payload: the tag offset `d` bounds
every variant's size, is attained by some variant (or is 0), and the enum is `d + 1` bytes. -/
theorem enum_tag_after_largest_payload (pw uid : Nat) (vs : Tys) :
    ∃ d, discriminantOffsetOf pw (.enum uid vs) = some d ∧ size pw (.enum uid vs) = d + 1 ∧
      (∀ v ∈ vs.toList, size pw v ≤ d) ∧ (d = 0 ∨ ∃ v ∈ vs.toList, size pw v = d) :=
  ⟨_, rfl, size_of_discriminantOffset rfl, variantsMax_fst_bound pw vs 0 1, variantsMax_fst_attained pw vs 0 1⟩

/-! ### Non-vacuity: a concrete nested type (`pw = 64`)
`struct { a: u8, b: i64, c: ?^u8, d: enum { X: u16, Y: void } }` -/
def exStruct : Members :=
  .cons 100 (.uint 8) (.cons 101 (.iint 64) (.cons 102 (.optional (.pointer false (.uint 8)))
    (.cons 103 (.enum 7 (.cons (.enumVariant 7 200 113 (.uint 16) 0)
      (.cons (.enumVariant 7 201 114 .void 1) .nil))) .nil)))

example : wfMembers exStruct = true := by decide
example : okPw 64 = true := by decide
example : structOffsets 64 exStruct 0 = [0, 8, 16, 24] := by decide
example : layout 64 (.anonStruct exStruct) = (27, 8) := by decide
example : strideOf 64 (.anonStruct exStruct) = 32 := by decide
example : discriminantOffsetOf 64 (.enum 7 (.cons (.enumVariant 7 200 113 (.uint 16) 0)
    (.cons (.enumVariant 7 201 114 .void 1) .nil))) = some 2 := by decide

end CapyV.C17
