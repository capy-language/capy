import CapyV.Proofs.Comptime
/-!
# C04 — a comptime block yields what the same code yields at run time

`CapyV.Comptime` models the three places a block's value passes through: the result-type check of
the type checker (`accepts`), the read-back after the JIT call (`capture`, by final type) and the two
ways the built program gets the value back (`embedCode` inside a function body; `intoBytes` +
`readGlobal` for a global). `blockValue` is what the block's code left behind according to the calling
convention of the block function — what the same code yields when it runs at run time.

Assumptions, stated where used: the compiler runs on a little-endian host (`to_ne_bytes`) and builds
for a little-endian target (`.little`); `f32 as f64 as f32` is exact on non-NaN values
(`FloatExact`); type ids identify types consistently across compilers (C18).
-/
namespace CapyV.Comptime

-- model vocabulary, hence this namespace; only the hypotheses of the theorems below use the two

/-- `f32` bit patterns that are NaNs -/
def isNaN32 (b : Nat) : Bool := b / 2 ^ 23 % 256 == 255 && b % 2 ^ 23 != 0

/-- `f32 as f64 as f32` gives back every non-NaN `f32` (binary32 ⊂ binary64, IEEE 754 §5.4.2). -/
def FloatExact (fc : FloatConv) : Prop :=
  ∀ b, b < 2 ^ 32 → isNaN32 b = false → fc.demote (fc.promote b) = b

end CapyV.Comptime

namespace CapyV.C04
open CapyV CapyV.Layout CapyV.Comptime

/-- Every accepted result type is `str` (whose characters are copied) or holds no address at all:
no pointer, function, slice, `str`, `any`, raw pointer or raw slice at any depth. -/
theorem accepted_imp_pointer_free (t : Ty) (h : accepts t = true) : isStr t = true ∨ PointerFree t := by
  simp only [accepts, Bool.or_eq_true, Bool.not_eq_true'] at h
  rcases h with h | h
  · exact Or.inl h
  · exact Or.inr (pointerFree_of_not_contains t h)

/-- The converse for the second alternative: a type that holds no address is accepted, so the
`ComptimePointer` diagnostic is issued only for types that hold an address. -/
theorem pointer_free_imp_accepted (t : Ty) (h : PointerFree t) : accepts t = true := by
  simp [accepts, not_contains_of_pointerFree h]

/-- The rule of the pinned tree (only a top-level pointer or function is rejected) did not have this
property: a slice, a struct with a `str` field, an optional pointer were accepted. -/
theorem accepted_old_imp_pointer_free_counterexample :
    ¬ (∀ t, acceptsOld t = true → isStr t = true ∨ PointerFree t) := by
  intro h
  have := h (.slice (.uint 8)) (by decide)
  rcases this with h | h
  · simp [isStr, Ty.absoluteTy] at h
  · cases h

theorem accepted_old_struct_with_str :
    acceptsOld (.anonStruct (.cons 0 (.iint 32) (.cons 1 .string .nil))) = true ∧
    accepts (.anonStruct (.cons 0 (.iint 32) (.cons 1 .string .nil))) = false := by decide

/-- Once addresses are rejected, the `FinalTy::Pointer` capture arm (result written to a buffer of
`size` bytes) is only reached by aggregates, which is what the block function's calling convention
assumes. (Before the fix `str` and `?^T`, scalars returned in a register, reached it.) -/
theorem accepted_pointer_final_is_aggregate (pw : Nat) (t : Ty) (h : accepts t = true)
    (hs : isStr t = false) (hf : finalTy pw t = some .pointer) : t.isAggregate = true := by
  simp only [accepts, hs, Bool.false_or, Bool.not_eq_true'] at h
  exact aggregate_of_pointer_final pw t h hf

section
variable (fc : FloatConv) (pw : Nat) (idOf : Ty → Nat) (table : List (Ty × Nat)) (m : Machine)

/-- Integers, `bool`, `char` of 8–64 bits: the program sees the low `bits` bits of what the block
returned, both inside a function body (`iconst`) and through a global's data object, for either
byte order of the target. -/
theorem embed_capture_int (ty : Ty) (bits : Nat) (s : Bool) (e : Endian)
    (hty : ty ≠ .type) (hstr : isStr ty = false)
    (hf : finalTy pw ty = some (.number bits false s))
    (hb : bits = 8 ∨ bits = 16 ∨ bits = 32 ∨ bits = 64) :
    (capture fc pw table ty m).bind (embedCode fc pw e idOf ty) = some (.scalar bits (m.r0 % 2 ^ bits)) ∧
    ((capture fc pw table ty m).bind (intoBytes fc idOf e)).bind (readGlobal pw e ty)
      = some (.scalar bits (m.r0 % 2 ^ bits)) := by
  have h256 : 256 ^ (bits / 8) = 2 ^ bits := pow256_eq_two_pow (eight_dvd_width hb)
  constructor
  · simp [capture, hty, hstr, hf, hb, embedCode]
  · simp [capture, hty, hstr, hf, hb, intoBytes, intBytes, readGlobal, take_encode, decode_encode,
      h256]

/-- `i128` / `u128`: captured as the 16 bytes of the register pair (host order), loaded back by the
program (little-endian target). -/
theorem embed_capture_int128 (ty : Ty) (s : Bool)
    (hty : ty ≠ .type) (hstr : isStr ty = false)
    (hf : finalTy pw ty = some (.number 128 false s))
    (h0 : m.r0 < 2 ^ 64) (h1 : m.r1 < 2 ^ 64) :
    (capture fc pw table ty m).bind (embedCode fc pw .little idOf ty) = some (.scalar 128 (m.r0 + 2 ^ 64 * m.r1)) ∧
    ((capture fc pw table ty m).bind (intoBytes fc idOf .little)).bind (readGlobal pw .little ty)
      = some (.scalar 128 (m.r0 + 2 ^ 64 * m.r1)) := by
  have hlen : (leBytes 16 (m.r0 + 2 ^ 64 * m.r1)).take 16 = leBytes 16 (m.r0 + 2 ^ 64 * m.r1) :=
    take_encode .little 16 _
  have hval : leVal (leBytes 16 (m.r0 + 2 ^ 64 * m.r1)) = m.r0 + 2 ^ 64 * m.r1 := by
    rw [leVal_leBytes]
    exact Nat.mod_eq_of_lt (by omega)
  simp [capture, hty, hstr, hf, embedCode, intoBytes, readGlobal, decode, hlen, hval,
    Nat.mod_eq_of_lt h0, Nat.mod_eq_of_lt h1]

/-- Floats: `f64` goes through unchanged, `f32` through `f32 → f64 → f32`, which is exact on every
non-NaN value. -/
theorem embed_capture_float (ty : Ty) (bits : Nat) (s : Bool) (e : Endian) (hfc : FloatExact fc)
    (hty : ty ≠ .type) (hstr : isStr ty = false)
    (hf : finalTy pw ty = some (.number bits true s)) (hb : bits = 32 ∨ bits = 64)
    (hnan : bits = 32 → isNaN32 (m.f0 % 2 ^ 32) = false) :
    (capture fc pw table ty m).bind (embedCode fc pw e idOf ty) = some (.scalar bits (m.f0 % 2 ^ bits)) ∧
    ((capture fc pw table ty m).bind (intoBytes fc idOf e)).bind (readGlobal pw e ty)
      = some (.scalar bits (m.f0 % 2 ^ bits)) := by
  rcases hb with hb | hb <;> subst hb
  · have hlt : m.f0 % 2 ^ 32 < 2 ^ 32 := Nat.mod_lt _ (by decide)
    have hx := hfc _ hlt (hnan rfl)
    have h256 : (256 : Nat) ^ 4 = 2 ^ 32 := by decide
    constructor
    · simp [capture, hty, hstr, hf, embedCode, hx]
    · simp [capture, hty, hstr, hf, intoBytes, floatBytes, readGlobal, take_encode, decode_encode, hx, h256]
  · have h256 : (256 : Nat) ^ 8 = 2 ^ 64 := by decide
    constructor
    · simp [capture, hty, hstr, hf, embedCode]
    · simp [capture, hty, hstr, hf, intoBytes, floatBytes, readGlobal, take_encode, decode_encode, h256]

/-- Aggregates (arrays, structs, enums, optionals, error unions): the bytes the program finds at the
address of the data object are the bytes the block wrote, `size` of them — all of the value: C17
(`struct_fields_ok`, `array_size`, the tag theorems) places every field, element and tag inside
`size`. For an accepted type these bytes hold no address (`accepted_imp_pointer_free`), so they mean
the same in the built program. -/
theorem embed_capture_bytes (ty : Ty) (hty : ty ≠ .type) (hstr : isStr ty = false)
    (hf : finalTy pw ty = some .pointer) (hbuf : size pw ty ≤ m.buf.length) (e : Endian) :
    (capture fc pw table ty m).bind (embedCode fc pw e idOf ty) = some (.bytes (m.buf.take (size pw ty))) ∧
    ((capture fc pw table ty m).bind (intoBytes fc idOf e)).bind (readGlobal pw e ty)
      = some (.bytes (m.buf.take (size pw ty))) ∧
    (m.buf.take (size pw ty)).length = size pw ty := by
  refine ⟨?_, ?_, ?_⟩
  · simp [capture, hty, hstr, hf, embedCode]
  · simp [capture, hty, hstr, hf, intoBytes, readGlobal]
  · simp [List.length_take, Nat.min_eq_left hbuf]

/-- `str`: the program reads, at the address of the data object, the characters the block's string
had (the characters themselves are copied, not the address). -/
theorem embed_capture_str (ty : Ty) (hty : ty ≠ .type) (hstr : isStr ty = true)
    (hf : finalTy pw ty = some .pointer) (hc : ∀ b ∈ m.cstr, b ≠ 0) (e : Endian) :
    (capture fc pw table ty m).bind (embedCode fc pw e idOf ty) = some (.cstring m.cstr) ∧
    ((capture fc pw table ty m).bind (intoBytes fc idOf e)).bind (readGlobal pw e ty)
      = some (.cstring m.cstr) := by
  have := cRead_append_nul m.cstr [] hc
  constructor
  · simp [capture, hty, hstr, hf, embedCode, this]
  · simp [capture, hty, hstr, hf, intoBytes, readGlobal, this]

/-- Zero-sized results (`void`, empty structs, …): nothing to carry. -/
theorem embed_capture_void (ty : Ty) (hty : ty ≠ .type) (hstr : isStr ty = false)
    (hf : finalTy pw ty = some .void) (e : Endian) :
    (capture fc pw table ty m).bind (embedCode fc pw e idOf ty) = some .unit := by
  simp [capture, hty, hstr, hf, embedCode]

end

/-- A block that computes the type `T` hands back `T`'s id in the session; the session's table turns
it into a type `T'` with the same session id, and the program is given `T'`'s id in the compiler that
builds it — which is `T`'s id there, provided ids identify types the same way in every compiler
(C18; true also for the documented `usize`/`u64` collision, which is a function of the type alone). -/
theorem type_roundtrip (table : List (Ty × Nat)) (idS idF : Ty → Nat) (T : Ty)
    (hreg : (T, idS T) ∈ table)
    (htab : ∀ p ∈ table, p.2 = idS p.1)
    (hcons : ∀ a b, idS a = idS b → idF a = idF b) :
    ∃ T', lookupId table (idS T) = some T' ∧ idF T' = idF T := by
  induction table with
  | nil => cases hreg
  | cons p rest ih =>
    obtain ⟨t, i⟩ := p
    by_cases hi : i = idS T
    · refine ⟨t, by simp [lookupId, hi], hcons _ _ ?_⟩
      have := htab (t, i) (by simp)
      simp at this
      omega
    · have hmem : (T, idS T) ∈ rest := by
        rcases List.mem_cons.mp hreg with h | h
        · injection h with _ h2
          exact absurd h2.symm hi
        · exact h
      obtain ⟨T', h1, h2⟩ := ih hmem (fun p hp => htab p (List.mem_cons_of_mem _ hp))
      exact ⟨T', by simp [lookupId, hi, h1], h2⟩

/-- The two embeddings of a `type` result agree with the id of `type_roundtrip` (low 32 bits,
little-endian host). -/
theorem embed_capture_type (fc : FloatConv) (pw : Nat) (idF : Ty → Nat) (table : List (Ty × Nat))
    (m : Machine) (T' : Ty) (h : lookupId table (m.r0 % 2 ^ 32) = some T') :
    (capture fc pw table .type m).bind (embedCode fc pw .little idF .type) = some (.scalar 32 (idF T' % 2 ^ 32)) ∧
    ((capture fc pw table .type m).bind (intoBytes fc idF .little)).bind (readGlobal pw .little .type)
      = some (.scalar 32 (idF T' % 2 ^ 32)) := by
  have h256 : (256 : Nat) ^ 4 = 2 ^ 32 := by decide
  have ht : (leBytes 4 (idF T' % 2 ^ 32)).take 4 = leBytes 4 (idF T' % 2 ^ 32) := take_encode .little 4 _
  constructor
  · simp [capture, h, embedCode]
  · simp [capture, h, intoBytes, readGlobal, finalTy, Ty.isZeroSized, decode, ht, leVal_leBytes, h256]

/-- **A comptime block yields what the same code yields at run time.** For every accepted result type
with a final type, whatever state the block's code leaves the machine in: the value the built program
observes — where the block is used inside a function body, and where it is the value of a global — is
the value the block computed (`blockValue`). Hypotheses: little-endian host and target; `f32`
results are not NaN (their payload may change in `f32 → f64 → f32`); the return buffer has the
`size` bytes that were allocated for it; the registers hold 64-bit values; a `str` result has no
interior NUL (by definition of the C string at the returned address). `void` results have no bytes
and are covered for uses inside function bodies. The proof does not use `_hacc`: the statement holds
of every type on which `blockValue` is defined. -/
theorem comptime_yields_runtime_value (fc : FloatConv) (hfc : FloatExact fc) (pw : Nat) (hpw : okPw pw = true)
    (idOf : Ty → Nat) (table : List (Ty × Nat)) (ty : Ty) (m : Machine)
    (_hacc : accepts ty = true)
    (hbuf : size pw ty ≤ m.buf.length) (h0 : m.r0 < 2 ^ 64) (h1 : m.r1 < 2 ^ 64)
    (hc : ∀ b ∈ m.cstr, b ≠ 0)
    (hnan : ∀ s, finalTy pw ty = some (.number 32 true s) → isNaN32 (m.f0 % 2 ^ 32) = false)
    (v : Observed) (hv : blockValue pw idOf table ty m = some v) :
    (capture fc pw table ty m).bind (embedCode fc pw .little idOf ty) = some v ∧
    (v ≠ .unit →
      ((capture fc pw table ty m).bind (intoBytes fc idOf .little)).bind (readGlobal pw .little ty) = some v) := by
  by_cases hty : ty = .type
  · subst hty
    simp only [blockValue, if_true] at hv
    cases hl : lookupId table (m.r0 % 2 ^ 32) with
    | none => simp [hl] at hv
    | some T' =>
      simp [hl] at hv
      subst hv
      exact (embed_capture_type fc pw idOf table m T' hl).imp_right fun h _ => h
  · cases hstr : isStr ty with
    | true =>
      simp only [blockValue, hty, if_false, hstr, if_true] at hv
      injection hv with hv
      subst hv
      have hf : finalTy pw ty = some .pointer := isStr_final pw ty hstr
      exact (embed_capture_str fc pw idOf table m ty hty hstr hf hc .little).imp_right fun h _ => h
    | false =>
      simp only [blockValue, hty, if_false, hstr] at hv
      cases hf : finalTy pw ty with
      | none => simp [hf] at hv
      | some f =>
        cases f with
        | void =>
          simp [hf] at hv
          subst hv
          exact ⟨embed_capture_void fc pw idOf table m ty hty hstr hf .little, fun h => absurd rfl h⟩
        | pointer =>
          simp [hf] at hv
          subst hv
          have := embed_capture_bytes fc pw idOf table m ty hty hstr hf hbuf .little
          exact ⟨this.1, fun _ => this.2.1⟩
        | number bits fl s =>
          rcases number_bits pw hpw ty hf with ⟨rfl, hb⟩ | ⟨rfl, hb⟩
          · by_cases h128 : bits = 128
            · subst h128
              simp [hf, Nat.mod_eq_of_lt h0, Nat.mod_eq_of_lt h1] at hv
              subst hv
              exact (embed_capture_int128 fc pw idOf table m ty s hty hstr hf h0 h1).imp_right fun h _ => h
            · simp [hf, h128] at hv
              subst hv
              have hb : bits = 8 ∨ bits = 16 ∨ bits = 32 ∨ bits = 64 := by omega
              exact (embed_capture_int fc pw idOf table m ty bits s .little hty hstr hf hb).imp_right
                fun h _ => h
          · simp [hf] at hv
            subst hv
            exact (embed_capture_float fc pw idOf table m ty bits s .little hfc hty hstr hf hb
              (fun h => hnan s (by rw [hf, h]))).imp_right fun h _ => h

/-- `struct { a: u8, b: [2]i16, c: ?u32, d: enum { X: u16, Y } }` is accepted, pointer free, captured
as 17 data bytes on a 64-bit target. -/
def exTy : Ty :=
  .concreteStruct 1 (.cons 0 (.uint 8) (.cons 1 (.concreteArray 2 (.iint 16)) (.cons 2 (.optional (.uint 32))
    (.cons 3 (.enum 7 (.cons (.enumVariant 7 200 113 (.uint 16) 0) (.cons (.enumVariant 7 201 114 .void 1) .nil)))
      .nil))))

example : accepts exTy = true := by decide
example : finalTy 64 exTy = some .pointer := by decide
example : size 64 exTy = 17 := by decide
example : captureLabel 64 exTy = "data:17" := by decide
example : accepts (.optional (.pointer false (.uint 8))) = false := by decide
example : accepts (.distinct 3 .string) = true ∧ accepts (.optional .string) = false := by decide
example : finalTy 64 (.iint 128) = some (.number 128 false true) := by decide

end CapyV.C04
