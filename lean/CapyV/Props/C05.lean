import CapyV.Proofs.Scope
/-!
# C05 — names resolve to the innermost visible binding; scopes end where they end

`resolve` is what `hir::lower` (`crates/hir/src/body.rs`, after the `fix:` that gives every
switch arm its own scope) makes of every identifier use of a file (`CapyV.Model.Scope`: the
mutable `Ctx` with its scope stack, `params` and `inline_header_params`, `lower_var_ref`'s
lookup order, `none` where the Rust panics). `spec` is lexical scoping as the property states it
(`CapyV.Spec.Scope`: an environment passed down the syntax tree, no state).

The full statement `∀ gs, resolve env gs = some (spec env gs)` is **false** of the code
(`resolve_eq_spec_counterexample`): inside a lambda *header*, after the first parameter,
a nested lambda (a function type!) trips `assert!(self.inline_header_params.is_empty())`, and a
local / switch argument bound inside a header expression is shadowed by an earlier parameter
of the same name. `okGlobals` excludes exactly these two constructs from header positions and
nothing else; under it the theorem holds for every file (`resolve_eq_spec_partial`).
Names: a=0 b=1 c=2 i32=3 nil=4 in the examples.
-/
namespace CapyV.C05
open CapyV.Scope

def env0 : Env := { globals := [0], prims := [3], nilKey := 4 }

/-- HEADLINE. For every file whose lambda headers contain (after the first parameter) no lambda
and no binder, the resolver does not panic and every identifier use resolves to what lexical
scoping prescribes. -/
theorem resolve_eq_spec_partial (env : Env) (gs : List Global) (h : okGlobals gs = true) :
    resolve env gs = some (spec env gs) := by
  simp [resolve, spec, lowerGlobals_eq env gs h Ctx.init rfl (Rel.init env)]

/-- `a :: (b: i32, c: (a: i32) -> i32) { c };` — a callback parameter after another parameter -/
def headerLambda : List Global := [⟨0, .lit,
  .lambda (.cons 1 6 false (.use 3)
            (.cons 2 14 false (.lambda (.cons 0 18 false (.use 3) .nil) (.use 3) .nil .lit) .nil))
    .lit .nil (.use 2)⟩]

/-- `a :: (comptime b: i32, c: { b :: i32; b }) { b };` -/
def headerLocal : List Global := [⟨0, .lit,
  .lambda (.cons 1 6 true (.use 3)
            (.cons 2 23 false (.block (.defn 1 28 .lit (.use 3) .nil) (.use 1)) .nil))
    .lit .nil (.use 1)⟩]

/-- the model (like the code: confirmed panic) stops at the assertion of `lower_lambda` -/
theorem header_lambda_panic_counterexample :
    okGlobals headerLambda = false ∧ resolve env0 headerLambda = none ∧
    spec env0 headerLambda = [.prim 3, .prim 3, .prim 3, .param 14 1] :=
  ⟨rfl, rfl, rfl⟩

/-- the header parameter `b` wins over the block local `b` declared inside the header -/
theorem header_local_counterexample :
    okGlobals headerLocal = false ∧
    resolve env0 headerLocal = some [.prim 3, .prim 3, .inlineParam 6 0 0, .comptimeParam 6 0 0] ∧
    spec env0 headerLocal = [.prim 3, .prim 3, .local 28, .comptimeParam 6 0 0] :=
  ⟨rfl, rfl, rfl⟩

/-- the unguarded statement is false -/
theorem resolve_eq_spec_counterexample : ¬ ∀ env gs, resolve env gs = some (spec env gs) := by
  intro h
  have := h env0 headerLambda
  rw [header_lambda_panic_counterexample.2.1] at this
  cases this

/-! ### the property's clauses, as the specification has them
(`scopes_end` ties the resolver in) -/

/-- Scopes end where they end: whatever an expression binds inside (block locals, switch
arguments, parameters), the identifier after it resolves exactly as it did before it, and the
whole resolver state is restored. -/
theorem scopes_end (env : Env) (e : Expr) (h : Bool) (c : Ctx) (se : SEnv) (x : Nat)
    (hok : okExpr h e = true) (hi : h = false → c.inline = []) (hr : Rel env c se) :
    lowerExprs true env (.cons e (.cons (.use x) .nil)) c =
      some (c, specExpr env e se ++ [lowerVarRef env c x]) := by
  simp [lowerExprs, lowerExpr, lowerExpr_eq env e h c se hok hi hr]

/-- A local is visible only *after* its definition: in `{ x; x := x; x }` the first two uses
are resolved in the surrounding environment, the third one is the local. -/
theorem local_visible_only_later (env : Env) (se : SEnv) (x tag : Nat) :
    specExpr env (.block (.expr (.use x) (.defn x tag .lit (.use x) .nil)) (.use x)) se =
      [specLookup env se x, specLookup env se x, .local tag] := by
  simp [specExpr, specStmts, specLookup]

/-- A switch argument is visible in the body of its own arm only: not in the scrutinee, not in
a variant, not in another arm (each arm has its own binding), not after the switch. -/
theorem switch_arg_only_in_its_arm (env : Env) (se : SEnv) (x t1 t2 : Nat) :
    specExprs env (.cons (.switch (some x) (.use x)
        (.cons t1 (.use x) (.use x) (.cons t2 (.use x) (.use x) .nil))) (.cons (.use x) .nil)) se =
      [specLookup env se x, specLookup env se x, .switchArg t1, specLookup env se x, .switchArg t2,
        specLookup env se x] := by
  simp [specExprs, specExpr, specArms, bindArg, specLookup]

/-- A lambda body sees its parameters and the globals, nothing else of its surroundings
(Capy functions do not capture): the body's resolution does not depend on the environment. -/
theorem lambda_body_does_not_capture (env : Env) (ps : Params) (body : Stmts) (tail : Expr)
    (se se' : SEnv) :
    specExpr env (.lambda ps .lit body tail) se =
      (specParams env ps 0 0 se []).1 ++
        (specExpr env (.lambda ps .lit body tail) se').drop (specParams env ps 0 0 se' []).1.length := by
  simp [specExpr, specParams_body_indep env ps 0 0 se se' []]

/-- An identifier with no visible binding is reported as undefined. -/
theorem undefined_reported (env : Env) (x : Nat) (hg : x ∉ env.globals) (hp : x ∉ env.prims)
    (hn : x ≠ env.nilKey) : specLookup env [] x = .undefined x := by
  simp [specLookup, List.lookup, specOuter, hg, hp, hn]

/-- The lookup order of the property text: local / switch argument, then parameter, then
global, then builtin type name, then `nil`. -/
theorem lookup_order (x t p : Nat) :
    let env : Env := { globals := [x], prims := [x], nilKey := x }
    specLookup env [(x, .local t), (x, .param p 0)] x = .local t ∧
    specLookup env [(x, .param p 0)] x = .param p 0 ∧
    specLookup env [] x = .global x ∧
    specLookup { env with globals := [] } [] x = .prim x ∧
    specLookup { env with globals := [], prims := [] } [] x = .nil := by
  simp [specLookup, List.lookup, specOuter]

/-! ### the resolver before the fix (`resolveOld`: the switch argument is inserted into the
enclosing scope and never removed) -/

/-- `corpus/probes/C05_switch_arg_leaks_after_switch.capy`:
`a :: () { b := 1; c := 1; switch b in c { i32 => { b; }, nil => { }, }; b };` -/
def probe : List Global := [⟨0, .lit,
  .lambda .nil .lit
    (.defn 1 10 .lit .lit (.defn 2 18 .lit .lit
      (.expr (.switch (some 1) (.use 2)
        (.cons 42 (.use 3) (.block (.expr (.use 1) .nil) .lit)
        (.cons 57 (.use 4) (.block .nil .lit) .nil))) .nil)))
    (.use 1)⟩]

/-- After the switch, `b` was the switch argument of the *last* arm (observed: prints `nil`),
not the local `b`; the fixed resolver agrees with lexical scoping. -/
theorem switch_arg_leak_counterexample :
    resolveOld env0 probe = some [.local 18, .prim 3, .switchArg 42, .nil, .switchArg 57] ∧
    spec env0 probe = [.local 18, .prim 3, .switchArg 42, .nil, .local 10] ∧
    resolve env0 probe = some (spec env0 probe) :=
  ⟨rfl, rfl, rfl⟩

/-- `a :: switch c in b { i32 => c, }; b :: c;` — at file level the argument went into the
root scope, which is shared by all globals of the file: it leaked into the next global. -/
def acrossGlobals : List Global :=
  [⟨0, .lit, .switch (some 2) (.use 1) (.cons 21 (.use 3) (.use 2) .nil)⟩, ⟨1, .lit, .use 2⟩]

theorem old_switch_arg_leaks_across_globals :
    let env : Env := { globals := [0, 1], prims := [3], nilKey := 4 }
    resolveOld env acrossGlobals = some [.global 1, .prim 3, .switchArg 21, .switchArg 21] ∧
    resolve env acrossGlobals = some [.global 1, .prim 3, .switchArg 21, .undefined 2] ∧
    spec env acrossGlobals = [.global 1, .prim 3, .switchArg 21, .undefined 2] :=
  ⟨rfl, rfl, rfl⟩

/-- `a :: () { comptime switch b in c { i32 => b, }; };` — `lower_comptime` empties the scope
stack, so the insert of the switch argument unwrapped `None` (confirmed panic); with a scope per
arm there is always a scope to insert into. -/
def comptimeSwitch : List Global := [⟨0, .lit,
  .lambda .nil .lit
    (.expr (.comptime (.switch (some 1) (.use 2) (.cons 35 (.use 3) (.use 1) .nil))) .nil) .lit⟩]

theorem old_comptime_switch_arg_panics :
    resolveOld env0 comptimeSwitch = none ∧
    resolve env0 comptimeSwitch = some [.undefined 2, .prim 3, .switchArg 35] :=
  ⟨rfl, rfl⟩

/-! ### non-vacuity -/

example : okGlobals probe = true := rfl
example : okGlobals acrossGlobals = true := rfl
example : okGlobals comptimeSwitch = true := rfl
/-- a lambda type as the *first* parameter is inside the guard:
`a :: (b: (a: i32) -> i32, comptime c: b, a: c) -> c { a }` -/
def callbackFirst : List Global := [⟨0, .lit,
  .lambda (.cons 1 6 false (.lambda (.cons 0 10 false (.use 3) .nil) (.use 3) .nil .lit)
            (.cons 2 27 true (.use 1) (.cons 0 40 false (.use 2) .nil)))
    (.use 2) .nil (.use 0)⟩]
example : okGlobals callbackFirst = true := rfl
example : resolve env0 callbackFirst =
    some [.prim 3, .prim 3, .inlineNotComptime 1, .inlineParam 27 1 0, .inlineParam 27 1 0,
      .param 40 2] :=
  rfl

end CapyV.C05
