import CapyV.Model.Gate
/-!
# C07 — a program is built if and only if no error was reported

The gate logic of `compile_file`, stated outright. The stages' own behaviour (that the front
end flags exactly the erroneous programs, that code generation of accepted programs succeeds)
is not provable here: it is what the correspondence run checks on near-valid programs.
-/
namespace CapyV.C07
open CapyV.Gate

/-- With exactly one entry point, consistent unsafe-tracking (`anyUnsafe → frontErrors`, the
second sentence of the property) and a code generator that does not fail, an object file is
produced exactly when the front end reported no error. -/
theorem object_iff_no_error (s : Stages) (hmain : s.mainCount = 1) (hgen : s.codegenErr = false)
    (hunsafe : s.anyUnsafe = true → s.frontErrors = true) :
    (gate s).objectWritten = true ↔ s.frontErrors = false := by
  cases hf : s.frontErrors
  · -- nothing flagged, one `main`, no code generation error: every remaining branch writes it
    have hu : s.anyUnsafe = false := by cases h : s.anyUnsafe <;> simp_all
    cases hn : s.noExec <;> cases hl : s.linkFail <;>
      simp [gate, hf, hu, hmain, hgen, hn, hl, Result.objectWritten]
  · simp [gate, hf, Result.objectWritten]

/-- Errors always stop the build, whatever the later stages would do. -/
theorem errors_build_nothing (s : Stages) (h : s.frontErrors = true) :
    gate s = .rejected ∧ (gate s).objectWritten = false ∧ (gate s).exitStatus = 1 := by
  simp [gate, h, Result.objectWritten, Result.exitStatus]

/-- No errors, one `main`, nothing flagged, working back end and linker: the executable is built
and the compiler exits with status 0. -/
theorem clean_program_is_built (s : Stages) (h1 : s.frontErrors = false) (h2 : s.anyUnsafe = false)
    (h3 : s.mainCount = 1) (h4 : s.codegenErr = false) (h5 : s.linkFail = false) (h6 : s.noExec = false) :
    gate s = .built := by
  simp [gate, h1, h2, h3, h4, h5, h6]

/-- The hypothesis `codegenErr = false` of `object_iff_no_error` is needed: an internal
code-generation error yields NO object and exit status 0 although no error was reported. -/
theorem cranelift_error_exit0_counterexample :
    ∃ s : Stages, s.frontErrors = false ∧ s.mainCount = 1 ∧ s.anyUnsafe = false ∧
      (gate s).objectWritten = false ∧ (gate s).exitStatus = 0 :=
  ⟨⟨false, false, 1, true, false, false⟩, by decide⟩

/-- The hypothesis on unsafe-tracking is needed too: something flagged unsafe without an error
makes the compiler panic on its own assertion instead of building. -/
theorem unsafe_without_error_panics (s : Stages) (h1 : s.frontErrors = false) (h2 : s.anyUnsafe = true) :
    gate s = .assertPanic := by
  simp [gate, h1, h2]

example : gate ⟨false, false, 1, false, false, false⟩ = .built := by decide
example : gate ⟨true, true, 1, false, false, false⟩ = .rejected := by decide

end CapyV.C07
