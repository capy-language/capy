import CapyV.Proofs.LineIndex
/-!
# C25 — reported line and column are exactly right
-/
namespace CapyV.C25
open CapyV.LineIndex

/-- **C25, full statement.** For every text `t` and every byte offset `off` in it,
`line_col` does not panic and returns `(line, col)` where, splitting the text before the
offset as `pre ++ line` at its last newline (`line` newline-free; `pre` empty or ending
with a newline), `line` is the number of newlines before the offset and `col` is the
offset minus the start of that line (`= line.length`). -/
theorem lineCol_exact (t : List Nat) (off : Nat) (h : off ≤ t.length) :
    ∃ pre line, SplitsAtLastLine (t.take off) pre line ∧
      lineCol t off = some ((t.take off).count NL, off - pre.length) ∧
      off - pre.length = line.length := by
  obtain ⟨pre, line, hsp⟩ := exists_split (t.take off)
  have hlast := hsp.last
  have hoff : pre.length + line.length = off := by
    rw [← List.length_append, ← hsp.1, List.length_take, Nat.min_eq_left h]
  have hn : (lineStarts (t.take off)).length = (t.take off).count NL + 1 := by
    simp [lineStarts, length_lineStartsFrom]
  -- the entry selected is the last one of the table of `t.take off`
  have hidx : (lineStarts t)[(t.take off).count NL]? = some pre.length := by
    rw [lineStarts_take t off h, List.getElem?_append_left (by omega), ← hlast,
      List.getLast?_eq_getElem?, hn]
    simp
  refine ⟨pre, line, hsp, ?_, by omega⟩
  have hle : pre.length ≤ off := by omega
  simp only [lineCol, partitionPoint_lineStarts t off h, Nat.add_sub_cancel, hidx]
  simp [hle]

/-- The line component alone: number of newlines strictly before the offset. -/
theorem lineCol_line (t : List Nat) (off : Nat) (h : off ≤ t.length) :
    (lineCol t off).map (·.1) = some ((t.take off).count NL) := by
  obtain ⟨_, _, _, hlc, _⟩ := lineCol_exact t off h
  simp [hlc]

/-- `line_col` never panics for an offset inside the text (no `- 1` underflow, no
out-of-bounds table access, no `TextSize` subtraction underflow). -/
theorem lineCol_total (t : List Nat) (off : Nat) (h : off ≤ t.length) :
    (lineCol t off).isSome := by
  obtain ⟨_, _, _, hlc, _⟩ := lineCol_exact t off h
  simp [hlc]

/-- The precondition of `slice::partition_point` holds: the table is strictly
increasing. -/
theorem lineStarts_strictMono (t : List Nat) : (lineStarts t).Pairwise (· < ·) :=
  lineStarts_sorted t

/-- Every rendered diagnostic names the 1-based version of the position where its range
starts. -/
theorem header_one_based (t : List Nat) (start : Nat) (h : start ≤ t.length) :
    ∃ pre line, SplitsAtLastLine (t.take start) pre line ∧
      header t start = some ((t.take start).count NL + 1, line.length + 1) := by
  obtain ⟨pre, line, hsp, hlc, hcol⟩ := lineCol_exact t start h
  exact ⟨pre, line, hsp, by simp [header, hlc, hcol]⟩

/-- Any two splits of the same text have prefixes of equal length, so "start of the line" is
well defined. -/
theorem split_unique (l pre₁ line₁ pre₂ line₂ : List Nat)
    (h₁ : SplitsAtLastLine l pre₁ line₁) (h₂ : SplitsAtLastLine l pre₂ line₂) :
    pre₁.length = pre₂.length :=
  Option.some.inj (h₁.last.symm.trans h₂.last)

/-! ### Non-vacuity: concrete evaluation on `"a\né\r\n"` (bytes 97 10 195 169 13 10). -/
example : lineCol [97, 10, 195, 169, 13, 10] 0 = some (0, 0) := by decide
example : lineCol [97, 10, 195, 169, 13, 10] 1 = some (0, 1) := by decide
example : lineCol [97, 10, 195, 169, 13, 10] 2 = some (1, 0) := by decide
example : lineCol [97, 10, 195, 169, 13, 10] 5 = some (1, 3) := by decide
example : lineCol [97, 10, 195, 169, 13, 10] 6 = some (2, 0) := by decide
example : header [97, 10, 195, 169, 13, 10] 4 = some (2, 3) := by decide
example : SplitsAtLastLine ([97, 10, 195, 169, 13, 10].take 5) [97, 10] [195, 169, 13] := by
  refine ⟨by decide, by decide, Or.inr (by decide)⟩

end CapyV.C25
