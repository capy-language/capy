import CapyV.Proofs.TyRel.Fit
/-!
# C13 — distinct types, enum variants and named structs are nominal

Statements about `CapyV.Ty.{canFitInto, canCastTo}` (`Model/TyRel.lean`, the transcription of
`Ty::can_fit_into` / `Ty::can_cast_to`), for ALL types.  `isNominal a` = `a` is a distinct type, an
enum variant type or a named struct.  The exceptions of the property text appear as explicit
cases: `any` / `Unknown` accept everything (`nominal_into_any_unknown`), a variant fits its own
enum (`variant_fit_enum_iff`), optional / error union reduce to their components, and the reverse
direction underlying → distinct (which the property does not forbid) is the second disjunct of
`nominal_into_nominal_partial`.  Weak (untyped-literal) types are never nominal, so they only occur
on the provided side of that reverse direction.

One clause is FALSE of the current code: a named struct is accepted where a VARIANT whose payload
is a *different but structurally identical* named struct is expected
(`nominal_into_nominal_counterexample`).
-/
namespace CapyV.C13
open CapyV CapyV.Ty

/-- distinct → distinct: exactly when the uids agree -/
theorem distinct_fit_iff_uid (u u' : Nat) (s t : Ty) :
    canFitInto (.distinct u s) (.distinct u' t) = true ↔ u = u' := by
  rw [fit_distinct_distinct, beq_iff_eq]

/-- variant → variant: exactly when the variant uids agree -/
theorem variant_fit_iff_uid (eu n u d eu' n' u' d' : Nat) (s t : Ty) :
    canFitInto (.enumVariant eu n u s d) (.enumVariant eu' n' u' t d') = true ↔ u = u' := by
  rw [fit_variant_variant, beq_iff_eq]

/-- variant → enum: exactly into its own enum -/
theorem variant_fit_enum_iff (eu n u d uid : Nat) (s : Ty) (vs : Tys) :
    canFitInto (.enumVariant eu n u s d) (.enum uid vs) = true ↔ eu = uid := by
  rw [fit_variant_enum, beq_iff_eq]

/-- named struct → named struct: exactly when the uids agree (members are irrelevant) -/
theorem struct_fit_iff_uid (u u' : Nat) (ms ns : Members) :
    canFitInto (.concreteStruct u ms) (.concreteStruct u' ns) = true ↔ u = u' := by
  rw [fit_struct_struct, beq_iff_eq]

/-- A value of a nominal type is never accepted where a primitive, array, slice, pointer or
function type is expected — in particular not where its own underlying type is expected, when
that is such a type. -/
theorem nominal_not_into_plain (a b : Ty) (ha : isNominal a = true) (hb : plainHead b = true) :
    canFitInto a b = false := by
  have h : noArmFor a b = true := by
    simp [noArmFor, hb]
  cases a <;> cases ha
  case distinct => exact fit_wrapper_last rfl rfl h
  case enumVariant => exact fit_wrapper_last rfl rfl h
  case concreteStruct =>
    rw [fit_nominal_last rfl h, isFuncEquiv_struct_left]
    cases b <;> cases hb <;> rfl

/-- a distinct type never fits its own underlying type when that is a primitive, array, slice,
pointer, function, named struct or variant type (for a distinct of a distinct see
`distinct_fit_iff_uid`; `any` / `Unknown` / optional / error union are covered by the
exception and reduction theorems below) -/
theorem distinct_not_into_underlying (u : Nat) (s : Ty)
    (hs : plainHead s = true ∨ isConcreteStruct s = true ∨ isEnumVariant s = true) :
    canFitInto (.distinct u s) s = false := by
  rcases hs with hs | hs | hs
  · exact nominal_not_into_plain _ _ rfl hs
  · cases s <;> cases hs
    exact fit_wrapper_last rfl rfl rfl
  · cases s <;> cases hs
    exact fit_wrapper_last rfl rfl rfl

/-- distinct / variant values are not accepted as anonymous structs; a named struct is accepted
as an ANONYMOUS struct type exactly when the members are functionally equivalent in order
(anonymous struct types only arise from `.{ … }` literals) -/
theorem nominal_into_anon_struct (a : Ty) (ns : Members) (ha : isNominal a = true) :
    canFitInto a (.anonStruct ns) =
      match a with
      | .concreteStruct _ ms => ms.length == ns.length && membersFuncEquiv ms ns false
      | _ => false := by
  cases a <;> cases ha
  case distinct => exact fit_wrapper_last rfl rfl rfl
  case enumVariant => exact fit_wrapper_last rfl rfl rfl
  case concreteStruct => rw [fit_nominal_last rfl rfl, isFuncEquiv_struct_left]

/-- a distinct value or a named struct is not accepted as an enum (a variant only as its own
enum: `variant_fit_enum_iff`) -/
theorem distinct_struct_not_into_enum (a : Ty) (uid : Nat) (vs : Tys) (ha : isNominal a = true)
    (hv : isEnumVariant a = false) : canFitInto a (.enum uid vs) = false := by
  cases a <;> cases ha <;> cases hv
  case distinct => exact fit_wrapper_last rfl rfl rfl
  case concreteStruct => rw [fit_nominal_last rfl rfl, isFuncEquiv_struct_left]

/-- the blanket exceptions: `any` and `Unknown` accept everything -/
theorem nominal_into_any_unknown (a : Ty) :
    canFitInto a .any = true ∧ canFitInto a .unknown = true :=
  ⟨fit_into_any a, fit_into_unknown a⟩

/-- accepted into `?T` only via `T` -/
theorem fit_optional_reduces (a s : Ty) (ha : isNominal a = true) :
    canFitInto a (.optional s) = canFitInto a s := by
  have ho : ∀ f, a ≠ .optional f := by
    rintro _ rfl
    cases ha
  have hn : a ≠ .nil := by
    rintro rfl
    cases ha
  exact fit_into_optional s ho hn

/-- accepted into `E!T` only via `E` or `T` -/
theorem fit_errunion_reduces (a e p : Ty) (ha : isNominal a = true) :
    canFitInto a (.errorUnion e p) = (canFitInto a e || canFitInto a p) := by
  have he : ∀ e' p', a ≠ .errorUnion e' p' := by
    rintro _ _ rfl
    cases ha
  exact fit_into_errorUnion e p he

def S1 : Ty := .concreteStruct 1 (.cons 100 (.iint 32) .nil)
def S2 : Ty := .concreteStruct 2 (.cons 100 (.iint 32) .nil)
def VS2 : Ty := .enumVariant 23 200 369 S2 0

/-- FALSE in full: a nominal value accepted where another nominal type is expected has the same
kind and uid, or fits that type's underlying type (underlying → distinct / variant, the direction
the property does not forbid).  Witness: the named struct `S1` is accepted where the variant
`E.V` with payload `S2` (structurally identical, different struct) is expected although `S1` does
not fit `S2`: `can_fit_into` has no `(_, EnumVariant)` arm and falls through to
`is_functionally_equivalent_to`, which ignores struct uids.  `x : E.V = s1;` compiles. -/
theorem nominal_into_nominal_counterexample :
    ¬ (∀ a b : Ty, isNominal a = true → isNominal b = true → canFitInto a b = true →
        nominalKey a = nominalKey b ∨ ∃ t, underlying b = some t ∧ canFitInto a t = true) := by
  intro h
  have hfit : canFitInto S1 VS2 = true := by
    rw [S1, VS2, fit_nominal_last rfl rfl, isFuncEquiv_struct_left]
    simp [S2, isFuncEquiv_struct_left, isFuncEquiv, membersFuncEquiv, Members.length]
  have hno : canFitInto S1 S2 = false := by
    rw [S1, S2, fit_struct_struct]
    rfl
  rcases h S1 VS2 rfl rfl hfit with hk | ⟨t, ht, hft⟩
  · simp [nominalKey, S1, VS2] at hk
  · simp [underlying, VS2] at ht
    subst ht
    rw [hno] at hft
    cases hft

/-- The clause refuted by `nominal_into_nominal_counterexample` holds for every other combination
(provided type not a named struct, or expected type not a variant). -/
theorem nominal_into_nominal_partial (a b : Ty) (ha : isNominal a = true) (hb : isNominal b = true)
    (hg : (isConcreteStruct a && isEnumVariant b) = false) (h : canFitInto a b = true) :
    nominalKey a = nominalKey b ∨ ∃ t, underlying b = some t ∧ canFitInto a t = true := by
  cases b <;> simp [isNominal] at hb <;> cases a <;> simp [isNominal] at ha
  -- the case tags read `expected.provided`
  -- expected distinct: the same uid if the provided type is distinct, else through the underlying type
  case distinct.distinct =>
    rw [fit_distinct_distinct, beq_iff_eq] at h
    subst h
    exact .inl rfl
  case distinct.concreteStruct =>
    rw [fit_into_distinct _ _ (by nofun)] at h
    exact .inr ⟨_, rfl, h⟩
  case distinct.enumVariant =>
    rw [fit_into_distinct _ _ (by nofun)] at h
    exact .inr ⟨_, rfl, h⟩
  -- expected named struct or variant: the same uid for the same kind, and no other kind fits
  case concreteStruct.concreteStruct =>
    rw [fit_struct_struct, beq_iff_eq] at h
    subst h
    exact .inl rfl
  case enumVariant.enumVariant =>
    rw [fit_variant_variant, beq_iff_eq] at h
    subst h
    exact .inl rfl
  case concreteStruct.distinct =>
    rw [fit_wrapper_last rfl rfl rfl] at h
    cases h
  case concreteStruct.enumVariant =>
    rw [fit_wrapper_last rfl rfl rfl] at h
    cases h
  case enumVariant.distinct =>
    rw [fit_wrapper_last rfl rfl rfl] at h
    cases h
  -- the combination of `nominal_into_nominal_counterexample`, excluded by `hg`
  case enumVariant.concreteStruct => cases hg

/-- Explicit casts between a distinct type and its underlying type are accepted, both ways.
(That they preserve the value is `castNum`'s identity branch / `cast_into_memory`'s
functionally-equivalent branch in code generation: C08, not part of this model.) -/
theorem cast_distinct_underlying (u : Nat) (s : Ty) :
    canCastTo (.distinct u s) s = true ∧ canCastTo s (.distinct u s) = true :=
  cast_distinct u s

example : isNominal S1 = true ∧ isNominal VS2 = true := ⟨rfl, rfl⟩
example : plainHead (.iint 32) = true := rfl
example : canFitInto (.uint 0) (.distinct 11 (.iint 32)) = true := by
  rw [fit_into_distinct _ _ (by nofun), fit_ui]
  rfl
example : canFitInto (.distinct 11 (.iint 32)) (.iint 32) = false :=
  nominal_not_into_plain _ _ rfl rfl
example : canFitInto (.iint 32) (.distinct 11 (.iint 32)) = true := by
  rw [fit_into_distinct _ _ (by nofun), canFitInto_refl]

end CapyV.C13
