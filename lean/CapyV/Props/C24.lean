import CapyV.Proofs.ExprRoundTrip
/-!
# C24 — expressions parse by the documented precedence and associativity

The parser model is `CapyV.ExprCore` (`Model/ExprCore.lean`), its binding powers / prefix set /
call-site flags are regenerated from `expr.rs` on every run (`Generated/BindingPowers.lean`), so
the theorems below are checked against the table as it stands in the source.
-/
namespace CapyV.C24
open CapyV.ExprCore CapyV.Generated.BP

/-- the precedence level the property text gives each binary operator:
`||` < `&&` < comparisons < `+ - | ~` < `* / % & << >>` -/
def docLevel : BinOp → Nat
  | .lor => 1
  | .land => 2
  | .lt | .le | .gt | .ge | .eq | .ne => 3
  | .add | .sub | .bor | .xor => 4
  | .mul | .div | .mod | .band | .shl | .shr => 5

/-- **Table shape.** In the regenerated binding-power table every documented operator sits on its
documented level, the five levels are in the documented order, every binary operator — a later
addition too — has `left < right` (left associativity), and the levels do not interleave.
(Open-world since harmless change C/h1: an operator ADDED to the table does not falsify it; a
documented operator that moves, or any operator that is not left-associative, does.) -/
theorem bp_table_shape :
    (∀ b : BinOp, binaryBp b.kind = some (2 * docLevel b - 1, 2 * docLevel b)) ∧
    (∀ b : BinOp, lbp b < rbp b) ∧
    (∀ a b : BinOp, lbp a < lbp b ↔ docLevel a < docLevel b) ∧
    (∀ a b : BinOp, lbp a < lbp b → rbp a ≤ lbp b) ∧
    (∀ (k : Kind) (l r : Nat), binaryBp k = some (l, r) → l < r) ∧
    (∀ b : BinOp, (b.kind, lbp b, rbp b) ∈ binaryTable) := by
  have doc : ∀ b : BinOp, binaryBp b.kind = some (2 * docLevel b - 1, 2 * docLevel b) :=
    fun b => by cases b <;> rfl
  have hl : ∀ b, lbp b = 2 * docLevel b - 1 := fun b => by simp [lbp, doc]
  -- conjuncts 2 and 4 are left associativity (`rbp_eq`), conjunct 3 is arithmetic on the first
  refine ⟨doc, fun b => ?_, fun a b => ?_, fun a b h => ?_, ?_, ?_⟩
  · rw [rbp_eq]
    exact Nat.lt_succ_self _
  · rw [hl, hl]
    omega
  · rw [rbp_eq]
    exact h
  · intro k l r h
    cases k <;> cases h <;> decide
  · intro b
    cases b <;> decide

/-- The prefix operator set, the postfix starters and the flag arguments of the call
sites are the ones the model's arms are written for. -/
theorem operator_sets_shape :
    prefixTokens = [.Hyphen, .Plus, .Bang, .Tilde] ∧
    (∀ k, isPrefix k = prefixTokens.contains k) ∧
    (∀ k, prefixDisallowDot k = false) ∧
    postfixStarters = [(.LBrack, false), (.LParen, false), (.Caret, true), (.As, true), (.Bang, false), (.Dot, false)] ∧
    dotForms = [(.LParen, true), (.LBrace, true), (.LBrack, true), (.Try, false)] ∧
    (loopDisallowDerefs, loopDisallowDot, prefixDisallowDerefs, refDisallowDot, startBp) = (false, false, true, true, 0) ∧
    (∀ u : UnOp, isPrefix u.tok.kind = true ∧ u.tok.unOp = some u) := by
  refine ⟨rfl, ?_, ?_, rfl, rfl, rfl, ?_⟩
  · intro k
    cases k <;> rfl
  · intro k
    cases k <;> rfl
  · intro u
    cases u <;> exact ⟨rfl, rfl⟩

/-- **C24, headline.** A tree printed with the minimal parenthesisation parses back to
the same tree, for every tree (no depth bound), with the fuel of `parse`. -/
theorem parse_print (t : Tree) : parse (print t) = some t :=
  parse_printWith _ t

/-- A tree printed with any amount of redundant parentheses parses back to the same tree:
`d c t` extra pairs around the subtree `t` in context `c`, for every `d`. -/
theorem parse_print_redundant (d : Ctx → Tree → Nat) (t : Tree) : parse (printWith d t) = some t :=
  parse_printWith d t

theorem parse_printFull (t : Tree) : parse (printFull t) = some t :=
  parse_printWith _ t

/-- Printing is injective: two different trees never print to the same tokens. -/
theorem print_injective (d : Ctx → Tree → Nat) (t₁ t₂ : Tree) (h : printWith d t₁ = printWith d t₂) : t₁ = t₂ := by
  have h₁ := parse_printWith d t₁
  rw [h, parse_printWith d t₂] at h₁
  exact (Option.some.inj h₁).symm

/-- Under a binary operator only binary operands are ever parenthesised: prefix and
postfix expressions bind tighter than every binary operator. -/
theorem only_binary_operands_parenthesised (k : Nat) (t : Tree) (h : needsParen (.expr k) t = true) :
    ∃ b l r, t = .bin b l r ∧ lbp b < k := by
  cases t <;> simp [needsParen] at h
  exact ⟨_, _, _, rfl, h⟩

/-- Two binary operators in a row: the tree is the one the table dictates — the tighter
operator gets the shared operand, equal levels associate to the left. -/
theorem binary_pair (a b : BinOp) (x y z : Nat) :
    parse [.ident x, .bop a, .ident y, .bop b, .ident z] =
      some (if docLevel a < docLevel b then .bin a (.ident x) (.bin b (.ident y) (.ident z))
            else .bin b (.bin a (.ident x) (.ident y)) (.ident z)) := by
  -- the pair is the minimal print of one of the two trees; `bp_table_shape` says of which
  obtain ⟨-, h2, h3, h4, -, -⟩ := bp_table_shape
  have hl := h3 a b
  have hr : lbp b < rbp a ↔ ¬ docLevel a < docLevel b := by
    have := h2 a
    have := h4 a b
    omega
  split <;> apply parse_of_print <;>
    simp [print, printWith, printAt, printRaw, layers, needsParen, parens, *]

/-- Prefix operators bind tighter than every binary operator, on either side. -/
theorem prefix_binds_tighter (u : UnOp) (b : BinOp) (x y : Nat) :
    parse [u.tok, .ident x, .bop b, .ident y] = some (.bin b (.un u (.ident x)) (.ident y)) ∧
    parse [.ident x, .bop b, u.tok, .ident y] = some (.bin b (.ident x) (.un u (.ident y))) ∧
    parse [.caret, .ident x, .bop b, .ident y] = some (.bin b (.ref false (.ident x)) (.ident y)) ∧
    parse [.ident x, .bop b, .caret, .mut, .ident y] = some (.bin b (.ident x) (.ref true (.ident y))) :=
  ⟨parse_of_print rfl, parse_of_print rfl, parse_of_print rfl, parse_of_print rfl⟩

/-- Postfix operators bind tighter than every binary operator. -/
theorem postfix_binds_tighter (b : BinOp) (x y z : Nat) :
    parse [.ident x, .bop b, .ident y, .caret] = some (.bin b (.ident x) (.deref (.ident y))) ∧
    parse [.ident x, .bop b, .ident y, .dot, .try_] = some (.bin b (.ident x) (.try_ (.ident y))) ∧
    parse [.ident x, .bop b, .ident y, .dot, .ident z] = some (.bin b (.ident x) (.field (.ident y) z)) ∧
    parse [.ident x, .bop b, .ident y, .lbrack, .ident z, .rbrack] = some (.bin b (.ident x) (.index (.ident y) (.ident z))) ∧
    parse [.ident x, .bop b, .ident y, .dot, .lparen, .ident z, .rparen] = some (.bin b (.ident x) (.cast (.ident y) (.ident z))) ∧
    parse [.ident x, .bop b, .ident y, .lparen, .ident z, .rparen] = some (.bin b (.ident x) (.call (.ident y) (.cons (.ident z) .nil))) ∧
    parse [.ident x, .caret, .bop b, .ident y] = some (.bin b (.deref (.ident x)) (.ident y)) :=
  ⟨parse_of_print rfl, parse_of_print rfl, parse_of_print rfl, parse_of_print rfl,
    parse_of_print rfl, parse_of_print rfl, parse_of_print rfl⟩

/-- Prefix against postfix (the property text does not order them; this is what the code
does): index, call, field, `.try` and cast go to the operand of `- + ! ~`; index, call,
field, `.try` go to the operand of `^`/`^mut`. -/
theorem postfix_before_prefix (u : UnOp) (x z : Nat) :
    parse [u.tok, .ident x, .dot, .ident z] = some (.un u (.field (.ident x) z)) ∧
    parse [u.tok, .ident x, .dot, .try_] = some (.un u (.try_ (.ident x))) ∧
    parse [u.tok, .ident x, .lbrack, .ident z, .rbrack] = some (.un u (.index (.ident x) (.ident z))) ∧
    parse [u.tok, .ident x, .lparen, .rparen] = some (.un u (.call (.ident x) .nil)) ∧
    parse [u.tok, .ident x, .dot, .lparen, .ident z, .rparen] = some (.un u (.cast (.ident x) (.ident z))) ∧
    parse [.caret, .ident x, .dot, .ident z] = some (.ref false (.field (.ident x) z)) ∧
    parse [.caret, .mut, .ident x, .lbrack, .ident z, .rbrack] = some (.ref true (.index (.ident x) (.ident z))) :=
  ⟨parse_of_print rfl, parse_of_print rfl, parse_of_print rfl, parse_of_print rfl,
    parse_of_print rfl, parse_of_print rfl, parse_of_print rfl⟩

/-- The exceptions (comment in `expr.rs`: "`^foo^` is parsed as `(^foo)^`", "`^foo.(bar)` as
`(^foo).(bar)`"): a dereference after any prefix operator applies to the whole prefixed
expression, and a `.(` cast after `^`/`^mut` applies to the reference. -/
theorem deref_after_prefix (u : UnOp) (x z : Nat) :
    parse [u.tok, .ident x, .caret] = some (.deref (.un u (.ident x))) ∧
    parse [.caret, .ident x, .caret] = some (.deref (.ref false (.ident x))) ∧
    parse [u.tok, .ident x, .dot, .ident z, .caret] = some (.deref (.un u (.field (.ident x) z))) ∧
    parse [.caret, .ident x, .dot, .lparen, .ident z, .rparen] = some (.cast (.ref false (.ident x)) (.ident z)) ∧
    parse [.caret, .mut, .ident x, .dot, .lparen, .ident z, .rparen] = some (.cast (.ref true (.ident x)) (.ident z)) := by
  cases u <;> exact ⟨rfl, rfl, rfl, rfl, rfl⟩

/-- The printer knows the exception: the minimal prints of `-(x^)` and `(-x)^` keep their
parentheses. -/
theorem print_un_deref (u : UnOp) (x : Nat) :
    print (.un u (.deref (.ident x))) = [u.tok, .lparen, .ident x, .caret, .rparen] ∧
    print (.deref (.un u (.ident x))) = [.lparen, u.tok, .ident x, .rparen, .caret] :=
  ⟨rfl, rfl⟩

/-- **Source level, full.** Any placement of whitespace or comments between the tokens of any
print (any redundant parentheses) of any tree parses back to the tree. (False before the
/repo fix `91f8795`: `x0 . try` made the parser panic.) -/
theorem parse_print_source (d : Ctx → Tree → Nat) (t : Tree) (raw : List RawTok)
    (hs : strip raw = printWith d t) : parseRaw raw = .ok t := by
  simp [parseRaw, bumpSkipsTrivia, hs, parse_printWith d t]

example : parseRaw [.tok (.ident 0), .ws, .tok .dot, .ws, .tok .try_] = .ok (.try_ (.ident 0)) := rfl
example : parseRaw [.tok .lparen, .ws, .tok (.ident 0), .ws, .tok (.bop .add), .ws, .tok (.ident 1), .ws,
    .tok .rparen, .ws, .tok .dot, .ws, .tok .lparen, .ws, .tok (.ident 2), .ws, .tok .rparen] =
    .ok (.cast (.bin .add (.ident 0) (.ident 1)) (.ident 2)) := rfl
example : parseRaw [.tok (.ident 0), .tok .dot, .ws, .tok (.bop .add)] = .reject := rfl

example : print (.bin .add (.ident 0) (.bin .mul (.ident 1) (.ident 2))) =
    [.ident 0, .bop .add, .ident 1, .bop .mul, .ident 2] := rfl
example : print (.bin .mul (.bin .add (.ident 0) (.ident 1)) (.ident 2)) =
    [.lparen, .ident 0, .bop .add, .ident 1, .rparen, .bop .mul, .ident 2] := rfl
example : print (.bin .sub (.ident 0) (.bin .sub (.ident 1) (.ident 2))) =
    [.ident 0, .bop .sub, .lparen, .ident 1, .bop .sub, .ident 2, .rparen] := rfl
example : parse [.ident 0, .bop .sub, .ident 1, .bop .sub, .ident 2] =
    some (.bin .sub (.bin .sub (.ident 0) (.ident 1)) (.ident 2)) := rfl
example : parse [.ident 0, .bop .bor, .ident 1, .bop .band, .ident 2, .bop .eq, .ident 3, .bop .lor, .ident 4] =
    some (.bin .lor (.bin .eq (.bin .bor (.ident 0) (.bin .band (.ident 1) (.ident 2))) (.ident 3)) (.ident 4)) := rfl
example : parse [.ident 0, .lparen, .int 7, .comma, .ident 4, .rparen, .dot, .ident 5] =
    some (.field (.call (.ident 0) (.cons (.int 7) (.cons (.ident 4) .nil))) 5) := rfl
example : parse [.ident 0, .bop .add] = none := rfl
example : parse [.ident 0, .bang, .ident 1] = none := rfl
example : parse (printFull (.bin .mul (.bin .add (.ident 0) (.ident 1)) (.un .neg (.deref (.ident 2))))) =
    some (.bin .mul (.bin .add (.ident 0) (.ident 1)) (.un .neg (.deref (.ident 2)))) := rfl

end CapyV.C24
