import CapyV.Proofs.Literal
/-!
# C09 — literals denote exactly their written values or are rejected

The model (`CapyV.Literal`) is the code as of the `fix:` commits b3d3345 (i128 limit, isize check,
`{uint}` widening threshold), 11785ef, 0ad143b, d3d0ed9, 10d2487 (`0eN`) and ad9b03f (DESIGN §0);
the tables `getMaxIntSizeI/U`, `weak*`, `escapeString/Char` are regenerated from the Rust source on
every run, so `accepts_iff_fits`, `default_keeps_value` and `escape_table_exact` are re-checked
against the code as it stands.

Float literals are *not* covered here (Lean's `Float` is opaque): they are checked only by the
correspondence run (bit pattern vs Rust's own `str::parse`).
-/
namespace CapyV.C09
open CapyV.Literal CapyV.Generated

/-- Whatever number the lowering produces for a well-formed spelling is exactly
the number it spells (positional notation, separators ignored, mantissa × 10^exponent), and
it fits a u64. -/
theorem lowerInt_value (s : Spelling) (hwf : s.wf = true) (n : Nat)
    (h : lowerInt s.kind s.text = .ok n) : n = value s ∧ n < 2 ^ 64 := by
  rw [lowerInt_spec s hwf] at h
  by_cases hv : value s < U64
  · simp only [hv, if_true] at h
    have h' : value s = n := by simpa using h
    refine ⟨h'.symm, ?_⟩
    rw [← h']
    exact hv
  · simp [hv] at h

/-- The lowering of a lexed literal never hits an `unwrap()` on `None`. -/
theorem lowerInt_no_panic (s : Spelling) (hwf : s.wf = true) :
    lowerInt s.kind s.text ≠ .panic := by
  rw [lowerInt_spec s hwf]
  by_cases hv : value s < U64 <;> simp [hv]

/-- Rejection is exactly overflow, for every well-formed spelling (as of fix 10d2487, `0eN`). -/
theorem lowerInt_overflow_iff (s : Spelling) (hwf : s.wf = true) :
    lowerInt s.kind s.text = .outOfRange ↔ 2 ^ 64 ≤ value s := by
  rw [lowerInt_spec s hwf]
  rw [← U64_eq]
  by_cases hv : value s < U64
  · simp [hv]
  · simp [hv]
    omega

/-- Before fix 10d2487 `lowerInt_overflow_iff` was false: `0e20` spells 0 but `lowerIntOld` refuses
it (`10_u64.checked_pow(20)` overflows before the multiplication by 0); the repaired lowering
accepts it. `zeroTimesHugePower` is the family (`0eN`, N ≥ 20) as the driver reports it. -/
theorem lowerIntOld_overflow_counterexample :
    ∃ s : Spelling, s.wf = true ∧ s.zeroTimesHugePower = true ∧ value s = 0 ∧
      lowerIntOld s.kind s.text = .outOfRange ∧ lowerInt s.kind s.text = .ok 0 := by
  refine ⟨.dec ['0'] (some (false, ['2', '0'])), ?_, ?_, ?_, ?_, ?_⟩ <;> decide

/-- A spelling is accepted by the lowering iff its value is below 2^64. -/
theorem lowerInt_accepts_iff (s : Spelling) (hwf : s.wf = true) :
    lowerInt s.kind s.text = .ok (value s) ↔ value s < 2 ^ 64 := by
  rw [lowerInt_spec s hwf]
  rw [← U64_eq]
  by_cases hv : value s < U64 <;> simp [hv]

/-- Both escape tables of the code (regenerated from `lower_string_literal` and
`lower_char_literal`) are exactly the specified table: the twelve escapes with their
conventional values, nothing else. -/
theorem escape_table_exact (c : Nat) :
    escapeString c = specEscape c ∧ escapeChar c = specEscape c := by
  unfold specEscape
  split
  iterate 12 exact ⟨rfl, rfl⟩
  -- the `_` arm of `specEscape`: its twelve inequalities decide the generated `if` chains
  simp_all [escapeString, escapeChar]

/-- A string literal all of whose escapes are escapes denotes exactly the characters it
spells, and produces no diagnostic. -/
theorem lowerString_value (comps : List Component) (t : List Nat)
    (h : specString comps = some t) : lowerString comps = (t, []) := by
  simpa only [h] using lowerString_spec (fun c => (escape_table_exact c).1) comps

/-- A string or char literal containing a backslash sequence that is not an escape is
rejected (`InvalidEscape`). -/
theorem invalid_escape_rejected (comps : List Component) (h : specString comps = none) :
    Diag.invalidEscape ∈ (lowerString comps).2 ∧ Diag.invalidEscape ∈ (lowerChar comps).2 := by
  constructor
  · simpa only [h] using lowerString_spec (fun c => (escape_table_exact c).1) comps
  · apply mem_lowerChar_of_mem_charLoop
    simpa only [h] using charLoop_spec (fun c => (escape_table_exact c).2) comps

/-- Diagnostics of a string literal are empty iff every escape in it is an escape. -/
theorem lowerString_accepted_iff (comps : List Component) :
    (lowerString comps).2 = [] ↔ specString comps ≠ none := by
  cases h : specString comps with
  | none =>
    have := (invalid_escape_rejected comps h).1
    constructor
    · intro h'
      rw [h'] at this
      simp at this
    · intro h'
      exact absurd rfl h'
  | some t => simp [lowerString_value comps t h]

/-- A char literal spelling exactly one character with code point below 256 denotes that code
point and produces no diagnostic. -/
theorem lowerChar_value (comps : List Component) (c : Nat)
    (h : specString comps = some [c]) (hc : c < 256) : lowerChar comps = (c, []) := by
  have := charLoop_spec (fun c => (escape_table_exact c).2) comps
  rw [h] at this
  simp [lowerChar, this, hc]

/-- A char literal that spells no character, several characters, or a character ≥ 256 is
rejected (some diagnostic). -/
theorem lowerChar_rejects (comps : List Component) (t : List Nat)
    (h : specString comps = some t) (hbad : ∀ c, t = [c] → 256 ≤ c) :
    (lowerChar comps).2 ≠ [] := by
  have := charLoop_spec (fun c => (escape_table_exact c).2) comps
  rw [h] at this
  match t, hbad with
  | [], _ => simp [lowerChar, this]
  | [c], hbad =>
    have hc : ¬ c < 256 := by have := hbad c rfl; omega
    simp [lowerChar, this, hc]
  | _ :: _ :: r, _ => simp [lowerChar, this]

/-- Accepted iff it fits: for each of the twelve integer types and every literal value
(literals are lowered into a u64), the range check of `expect_match` / `replace_weak_tys`
passes iff the value is in the type's two's-complement range (isize/usize: 64 bit). -/
theorem accepts_iff_fits (t : ITy) (ht : t ∈ allITys) (n : Nat) (hn : n < 2 ^ 64) :
    acceptsAt t n = true ↔ fits t n := by
  rw [acceptsAt_iff_le (Nat.le_sub_one_of_lt hn), getMaxIntSize_table t ht, fits_iff]
  have := Nat.two_pow_pos t.rangeBits
  omega

/-- An accepted literal keeps its written value at run time: the constant the code generator
emits at the annotated type, read back at that type, is the literal. -/
theorem accepted_keeps_value (t : ITy) (ht : t ∈ allITys) (n : Nat) (hn : n < 2 ^ 64)
    (h : acceptsAt t n = true) : finalValue t n = (n : Int) :=
  finalValue_of_fits ((by decide : ∀ t ∈ allITys, t.width ≠ 0) t ht)
    ((accepts_iff_fits t ht n hn).mp h)

/-- Defaulting keeps the value: whatever type the defaulting rules give an unannotated
literal (local `x := n` or global `g :: n`), the value observed at run time is `n`. -/
theorem default_keeps_value (global : Bool) (n : Nat) (hn : n < 2 ^ 64) (t : ITy)
    (h : defaultTy global n = some t) : finalValue t n = (n : Int) := by
  rw [defaultTy_eq] at h
  cases h
  apply finalValue_of_lt
  split
  · exact hn
  · cases global <;> exact Nat.lt_succ_of_le (Nat.le_of_not_lt ‹_›)

/-- The defaulting rules never reject a literal that lowered (every u64 has a default type that
holds it). -/
theorem default_accepts (global : Bool) (n : Nat) : (defaultTy global n).isSome = true := by
  rw [defaultTy_eq]
  rfl

/-- The operand of a unary minus (`x := -n`, the literal becomes `{int}`) keeps its value too. -/
theorem default_neg_keeps_value (n : Nat) (hn : n < 2 ^ 63) :
    finalValue (defaultTyNeg n) n = (n : Int) := by
  apply finalValue_of_lt
  rw [defaultTyNeg, reinferLit_weak]
  split
  · exact hn
  · exact Nat.lt_succ_of_le (Nat.le_of_not_lt ‹_›)

example : (Spelling.dec "4_294_967_295".toList none).wf = true ∧
    value (.dec "4_294_967_295".toList none) = 4294967295 := by decide
example : lowerInt .dec "1_8e1_8".toList = .ok 18000000000000000000 := by decide
example : lowerInt .dec "18446744073709551616".toList = .outOfRange := by decide
example : lowerInt .hex "0xFFFFffffFFFFffff".toList = .ok 18446744073709551615 := by decide
example : lowerInt .bin "0b102".toList = .outOfRange := by decide
example : lowerInt .hex "1x".toList = .panic := by decide
example : acceptsAt ⟨true, 128⟩ 9223372036854775808 = true ∧ acceptsAt ⟨true, 255⟩ 9223372036854775808 = false := by
  decide
example : defaultTy false 3000000000 = some ⟨false, 64⟩ ∧ defaultTy true 2147483647 = some ⟨true, 32⟩ := by
  decide
example : specString [.contents [97], .escape 110, .escape 113] = none ∧
    specString [.contents [97], .escape 110] = some [97, 10] := by decide
example : lowerChar [.escape 113] = (0, [.invalidEscape]) ∧ lowerChar [.contents [233]] = (233, []) ∧
    lowerChar [.contents [8364]] = (0, [.nonU8]) := by decide

end CapyV.C09
