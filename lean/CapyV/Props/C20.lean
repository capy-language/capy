import CapyV.Proofs.OrderIndep
/-!
# C20 — results do not depend on the order of definitions or files

Model: `CapyV.Model.OrderIndep` — the round loop of `InferenceCtx::finish`
(`crates/hir_ty/src/lib.rs`): the globals of all files are registered in index order
(`init seeds`), every round offers the pending items whose registered dependencies have all
completed (`leaves`), and `infer` (`inferAbs`) either completes an item from the results of
the items it refers to or registers the missing ones, which become pending themselves.
The textual order of the definitions, and their distribution over files, only changes the
order of `seeds` (and thereby the order in which items are offered and completed).

What is proved, for every reference graph `sys.deps`, every result function `sys.f`, every
seed list and every number of rounds (no size bound): every completed result is the value of
*the* solution `val` of the reference equations `val x = f x (map val (deps x))`, and a finished
run has completed exactly the items reachable from the seeds, each once; so two finished runs
from seed lists with the same elements have the same result table (the headline). When
references have no cycle (a rank decreases along them) the solution exists, and if the reachable
items are finitely many (`U`) the loop finishes within `2 * U.length` rounds, so the hypotheses of
the headline are satisfiable and its conclusion holds outright.

What is NOT covered: reference cycles. With a cycle no pending item is ever offered by this
model (`cyclic_never_completes`); the compiler then breaks the round by processing the cyclic
batch in a *sorted* order (`peek_all_cyclic` + `sort_by`, lib.rs:619–649) precisely so that
the outcome does not depend on registration order. Neither that branch nor the shape of the
real `infer` (a function of the item and of the results it reads) is part of this model; both
are what the end-to-end permutation runs of the harness test.
-/
namespace CapyV.C20
open CapyV CapyV.OrderIndep

variable {R : Type}

/-- (1) every completed result is the solution's value — whatever the seed order and however
many rounds have run -/
theorem results_are_the_solution (sys : Sys R) (val : Nat → R) (hval : IsSolution sys val)
    (seeds : List Nat) (n : Nat) (x : Nat) (r : R)
    (h : (x, r) ∈ (rounds sys n (init seeds)).done) : r = val x :=
  rounds_correct hval n (init_correct val seeds) (x, r) h

/-- (2a) only items reachable from the seeds are ever completed -/
theorem done_only_reachable (sys : Sys R) (seeds : List Nat) (n : Nat) (x : Nat) (r : R)
    (h : (x, r) ∈ (rounds sys n (init seeds)).done) : Reach sys seeds x :=
  (rounds_inv n (init_inv sys seeds)).reach x
    (.inr (isDone_iff.mpr (List.mem_map.mpr ⟨(x, r), h, rfl⟩)))

/-- (2b) only items reachable from the seeds ever become pending -/
theorem pending_only_reachable (sys : Sys R) (seeds : List Nat) (n : Nat) (x : Nat)
    (h : x ∈ (rounds sys n (init seeds)).pending) : Reach sys seeds x :=
  (rounds_inv n (init_inv sys seeds)).reach x (.inl h)

/-- (3) when nothing is pending any more, everything reachable has been completed -/
theorem finished_covers_reachable (sys : Sys R) (seeds : List Nat) (n : Nat)
    (hfin : (rounds sys n (init seeds)).pending = []) (x : Nat) (hr : Reach sys seeds x) :
    x ∈ (rounds sys n (init seeds)).done.map Prod.fst :=
  isDone_iff.mp (inv_finished_covers (rounds_inv n (init_inv sys seeds)) hfin hr)

/-- (4) an item completes at most once -/
theorem done_keys_nodup (sys : Sys R) (seeds : List Nat) (n : Nat) :
    ((rounds sys n (init seeds)).done.map Prod.fst).Nodup :=
  (rounds_inv n (init_inv sys seeds)).dnodup

/-- (4') a pending item has not completed, and the pending list has no duplicates -/
theorem pending_nodup_not_done (sys : Sys R) (seeds : List Nat) (n : Nat) :
    (rounds sys n (init seeds)).pending.Nodup ∧
    ∀ x ∈ (rounds sys n (init seeds)).pending,
      x ∉ (rounds sys n (init seeds)).done.map Prod.fst :=
  ⟨(rounds_inv n (init_inv sys seeds)).pnodup,
   fun x hx => not_isDone_iff.mp ((rounds_inv n (init_inv sys seeds)).disj x hx)⟩

/-- the result table of a finished run, as a function of the item: the solution's value on the
reachable items, nothing elsewhere -/
theorem finished_table (sys : Sys R) (val : Nat → R) (hval : IsSolution sys val)
    (seeds : List Nat) (n : Nat) (hfin : (rounds sys n (init seeds)).pending = []) (x : Nat) :
    (Reach sys seeds x → lookupR x (rounds sys n (init seeds)).done = some (val x)) ∧
    (¬ Reach sys seeds x → lookupR x (rounds sys n (init seeds)).done = none) :=
  have inv := rounds_inv (sys := sys) n (init_inv sys seeds)
  ⟨fun hr => (rounds_correct hval n (init_correct val seeds)).lookupR
      (inv_finished_covers inv hfin hr),
   fun hnr => Option.not_isSome_iff_eq_none.1 fun h => hnr (inv.reach x (.inr h))⟩

/-- (5) HEADLINE: two finished runs whose seed lists have the same elements — in any order, with
any repetitions, after any numbers of rounds — have the same result table, and it is
`some (val x)` exactly on the reachable items -/
theorem final_results_independent_of_seed_order (sys : Sys R) (val : Nat → R)
    (hval : IsSolution sys val) (s₁ s₂ : List Nat) (hperm : ∀ x, x ∈ s₁ ↔ x ∈ s₂) (n₁ n₂ : Nat)
    (h₁ : (rounds sys n₁ (init s₁)).pending = []) (h₂ : (rounds sys n₂ (init s₂)).pending = []) :
    ∀ x,
      lookupR x (rounds sys n₁ (init s₁)).done = lookupR x (rounds sys n₂ (init s₂)).done ∧
      (Reach sys s₁ x → lookupR x (rounds sys n₁ (init s₁)).done = some (val x)) ∧
      (¬ Reach sys s₁ x → lookupR x (rounds sys n₁ (init s₁)).done = none) := by
  intro x
  have t₁ := finished_table sys val hval s₁ n₁ h₁ x
  have t₂ := finished_table sys val hval s₂ n₂ h₂ x
  refine ⟨?_, t₁⟩
  by_cases hr : Reach sys s₁ x
  · rw [t₁.1 hr, t₂.1 (Reach.mono (fun y hy => (hperm y).mp hy) hr)]
  · rw [t₁.2 hr, t₂.2 (fun h => hr (Reach.mono (fun y hy => (hperm y).mpr hy) h))]

/-- (6a) without reference cycles the equations have a solution, so (1) and (5) are not vacuous -/
theorem acyclic_has_solution [Inhabited R] (sys : Sys R) (rk : Nat → Nat) (hrk : IsRank sys rk) :
    ∃ val : Nat → R, IsSolution sys val :=
  ⟨_, isSolution_valF hrk⟩

/-- (6b) without reference cycles, and with finitely many reachable items, the loop finishes
within `2 * U.length` rounds: every round with something pending asks or completes an item of `U` that
was not asked or completed before -/
theorem acyclic_finishes (sys : Sys R) (rk : Nat → Nat) (hrk : IsRank sys rk) (seeds U : List Nat)
    (hU : ∀ x, Reach sys seeds x → x ∈ U) :
    (rounds sys (2 * U.length) (init seeds)).pending = [] :=
  rounds_finish hrk hU _ (init_inv sys seeds) (init_winv sys seeds) (Nat.le_add_left ..)

/-- (6c) so on an acyclic system the final results depend on the *set* of seeds only -/
theorem acyclic_results_independent_of_seed_order [Inhabited R] (sys : Sys R) (rk : Nat → Nat)
    (hrk : IsRank sys rk) (s₁ s₂ U : List Nat) (hperm : ∀ x, x ∈ s₁ ↔ x ∈ s₂)
    (hU : ∀ x, Reach sys s₁ x → x ∈ U) :
    ∃ val : Nat → R, IsSolution sys val ∧ ∀ x,
      lookupR x (rounds sys (2 * U.length) (init s₁)).done =
        lookupR x (rounds sys (2 * U.length) (init s₂)).done ∧
      (Reach sys s₁ x → lookupR x (rounds sys (2 * U.length) (init s₁)).done = some (val x)) ∧
      (¬ Reach sys s₁ x → lookupR x (rounds sys (2 * U.length) (init s₁)).done = none) := by
  refine ⟨_, isSolution_valF hrk, ?_⟩
  exact final_results_independent_of_seed_order sys _ (isSolution_valF hrk) s₁ s₂ hperm _ _
    (acyclic_finishes sys rk hrk s₁ U hU)
    (acyclic_finishes sys rk hrk s₂ U
      (fun x hx => hU x (Reach.mono (fun y hy => (hperm y).mpr hy) hx)))

/-- `1` and `2` refer to each other -/
def cyc : Sys Nat where
  deps := fun x => if x = 1 then [2] else if x = 2 then [1] else []
  f := fun x rs => x + rs.sum

/-- (7) on a reference cycle the model never completes anything: after the first round both
items wait for each other and no item is offered again (`leaves = []`), whatever the seed
order. The compiler leaves this state through `peek_all_cyclic` + a sort, which is not
modelled: C20 for cyclic programs rests on that sort and on the end-to-end runs only. -/
theorem cyclic_never_completes (n : Nat) :
    (rounds cyc (n + 1) (init [1, 2])).done = [] ∧
    (rounds cyc (n + 1) (init [1, 2])).pending = [1, 2] ∧
    (rounds cyc (n + 1) (init [2, 1])).done = [] ∧
    (rounds cyc (n + 1) (init [2, 1])).pending = [2, 1] := by
  have fix12 : round cyc (round cyc (init [1, 2])) = round cyc (init [1, 2]) := by rfl
  have fix21 : round cyc (round cyc (init [2, 1])) = round cyc (init [2, 1]) := by rfl
  simp only [rounds]
  rw [rounds_of_fixed fix12 n, rounds_of_fixed fix21 n]
  decide

/-- the equations of `cyc` have no solution at all: `v 1 = 1 + v 2`, `v 2 = 2 + v 1` -/
theorem cyclic_has_no_solution : ¬ ∃ val : Nat → Nat, IsSolution cyc val := by
  rintro ⟨val, h⟩
  have h1 := h 1
  have h2 := h 2
  simp [cyc] at h1 h2
  omega

/-- a diamond `4 → 2, 3 → 1` -/
def diamond : Sys Nat where
  deps := fun x => if x = 4 then [2, 3] else if x = 2 then [1] else if x = 3 then [1] else []
  f := fun x rs => x + rs.sum

example : IsRank diamond id := by
  intro x d hd
  simp only [diamond] at hd
  split at hd
  · subst x
    revert d
    decide
  · split at hd
    · subst x
      revert d
      decide
    · split at hd
      · subst x
        revert d
        decide
      · cases hd

def diamondVal : Nat → Nat := fun x =>
  if x = 1 then 1 else if x = 2 then 3 else if x = 3 then 4 else if x = 4 then 11 else x

example : IsSolution diamond diamondVal := by
  intro x
  by_cases h4 : x = 4
  · subst h4
    decide
  by_cases h2 : x = 2
  · subst h2
    decide
  by_cases h3 : x = 3
  · subst h3
    decide
  by_cases h1 : x = 1
  · subst h1
    decide
  simp [diamond, diamondVal, h1, h2, h3, h4]

/-- seeds `[4]`, only the entry point: the rest is discovered through `deps` (5 rounds: register
`2, 3`; register `1`; complete `1`; complete `2, 3`; complete `4`) -/
example : (rounds diamond 5 (init [4])).pending = [] ∧
    (rounds diamond 5 (init [4])).done = [(4, 11), (3, 4), (2, 3), (1, 1)] := by decide

/-- seeds `[1, 2, 3, 4]`, dependency order: every item finds its references completed earlier in
the same round, one round suffices -/
example : (rounds diamond 1 (init [1, 2, 3, 4])).pending = [] ∧
    (rounds diamond 1 (init [1, 2, 3, 4])).done = [(4, 11), (3, 4), (2, 3), (1, 1)] := by decide

/-- seeds `[4, 3, 2, 1]`, the opposite order: three rounds and a different completion order (`3`
before `2`) -/
example : (rounds diamond 3 (init [4, 3, 2, 1])).pending = [] ∧
    (rounds diamond 3 (init [4, 3, 2, 1])).done = [(4, 11), (2, 3), (3, 4), (1, 1)] := by decide

/-- the first and the third of these runs one round earlier are *not* finished (so `pending = []`
is a real hypothesis) -/
example : (rounds diamond 4 (init [4])).pending = [4] ∧
    (rounds diamond 2 (init [4, 3, 2, 1])).pending = [4] := by decide

/-- the three finished runs above have the same result table -/
example : ∀ x ∈ [0, 1, 2, 3, 4, 5],
    lookupR x (rounds diamond 5 (init [4])).done =
      lookupR x (rounds diamond 1 (init [1, 2, 3, 4])).done ∧
    lookupR x (rounds diamond 1 (init [1, 2, 3, 4])).done =
      lookupR x (rounds diamond 3 (init [4, 3, 2, 1])).done := by decide

/-- a seed list with repetitions that does not reach every item: `4` never completes -/
example : (rounds diamond 3 (init [2, 2, 3])).pending = [] ∧
    (rounds diamond 3 (init [2, 2, 3])).done = [(3, 4), (2, 3), (1, 1)] := by decide

end CapyV.C20
