import CapyV.Proofs.Mangle
/-!
# C27 — distinct compiled entities get distinct symbol names

Strings are UTF-8 byte lists; the doc comments spell them out.

Entities are compared after `Entity.resolve`: a lambda directly bound to a global *is*
that global's function (`get_naive_lambda_global`, and the compiler's own `Ord for
NaiveLoc` identifies the two), so it is one compiled entity with one name.
-/
namespace CapyV.C27
open CapyV.Mangle

/-- **C27, reserved names, part 1 (full).** No entity is named `main`. -/
theorem mangle_ne_main (e : Entity) : mangle e ≠ some MAIN := by
  intro h
  obtain ⟨k, hk⟩ := mangle_head_is_code e MAIN h
  have h90 := (code_upper k).2
  rw [← Option.some.inj hk] at h90
  exact absurd h90 (by decide)

/-- **C27, reserved names, part 2 (full).** No entity's name is a compiler-internal
symbol `_CI<len><name>E`, whatever the internal name. -/
theorem mangle_not_internal (e : Entity) (name : List Nat) :
    mangle e ≠ some (mangleInternal name) := by
  intro h
  obtain ⟨k, hk⟩ := mangle_head_is_code e _ h
  have h90 := (code_upper k).2
  rw [← Option.some.inj hk] at h90
  exact absurd h90 (by decide)

/-- The two reserved families do not meet: no compiler-internal symbol `_CI<len><name>E` is
`main`. -/
theorem mangleInternal_ne_main (name : List Nat) : mangleInternal name ≠ MAIN := by
  simp [mangleInternal, MAIN]

/-- **Entities of different kinds never collide (full, any paths).**  If two entities get
the same symbol they are both globals or both lambdas, both generic instances or both
not, and both code / both comptime blocks / both comptime data.  (The header of kind
codes is uniquely readable: it ends at the first digit.)  In particular a global named
like a lambda index, a generic id, or `…Z3` can never be confused with the real thing. -/
theorem mangle_kind_separated (a b : Entity) (hs : (mangle a).isSome)
    (h : mangle a = mangle b) : a.shape = b.shape := by
  obtain ⟨ca, hca⟩ := components_of_mangle hs
  obtain ⟨cb, hcb⟩ := components_of_mangle (h ▸ hs)
  rw [shape_eq, shape_eq, (mangle_unique hca hcb h).2.1]

/-- **Within one file there are no collisions at all (full, any path).**  For every file
— including the ones in the known collision classes — two entities of that file with
identifier-like names (not starting with a digit) and the same symbol are the same
entity: same global / lambda index, same generic id, same comptime index, same data
name. -/
theorem mangle_injective_same_file (a b : Entity) (hf : a.file = b.file)
    (ha : a.namesOK = true) (hb : b.namesOK = true) (hs : (mangle a).isSome)
    (h : mangle a = mangle b) : a.resolve = b.resolve := by
  obtain ⟨ca, hca⟩ := components_of_mangle hs
  obtain ⟨cb, hcb⟩ := components_of_mangle (h ▸ hs)
  obtain ⟨_, hk, hp⟩ := mangle_unique hca hcb h
  exact resolve_eq_of_finalParts a b hf
    (parts_eq_of_good _ _ (finalParts_good a ha) (finalParts_good b hb) hk hp)

/-- A well-formed entity has a name (no panic). -/
theorem mangle_isSome_of_WF (e : Entity) (h : WF e = true) : (mangle e).isSome := by
  simp only [WF, Bool.and_eq_true] at h
  obtain ⟨c, hc, _⟩ := fileWF_parts e.file h.1
  simp [mangle_eq, hc]

/-- **C27, distinctness, partial.**  Under the decidable guard `WF` (path components:
directories dot-free, file `stem.capy` with dot-free stem, no component that looks like
its own digit escape `f<digit>…` / `m<digit>…`, the `src` skip fires exactly for module
files; names not starting with a digit), two entities with the same symbol are the same
entity.  No bound on path length, name length or indices. -/
theorem mangle_injective_partial (a b : Entity) (ha : WF a = true) (hb : WF b = true)
    (h : mangle a = mangle b) : a.resolve = b.resolve := by
  simp only [WF, Bool.and_eq_true] at ha hb
  obtain ⟨ca, hca, hga, hfa⟩ := fileWF_parts a.file ha.1
  obtain ⟨cb, hcb, hgb, hfb⟩ := fileWF_parts b.file hb.1
  obtain ⟨⟨hfk, hfp⟩, hk, hp⟩ := mangle_unique hca hcb h
  exact resolve_eq_of_finalParts a b (by rw [← hfa, parts_eq_of_good _ _ hga hgb hfk hfp, hfb])
    (parts_eq_of_good _ _ (finalParts_good a ha.2) (finalParts_good b hb.2) hk hp)

/-- Collision class `digit-escape`: a directory `1` and a directory `f1`: both become the part `2f1`.  Both are `FFN2f11f3valE`. -/
theorem mangle_injective_counterexample_digit_escape :
    let a : Entity := ⟨⟨.cwd, [[49], [102, 46, 99, 97, 112, 121]]⟩, .global [118, 97, 108], none, .code⟩
    let b : Entity := ⟨⟨.cwd, [[102, 49], [102, 46, 99, 97, 112, 121]]⟩, .global [118, 97, 108], none, .code⟩
    mangle a = some [70, 70, 78, 50, 102, 49, 49, 102, 51, 118, 97, 108, 69] ∧ mangle b = some [70, 70, 78, 50, 102, 49, 49, 102, 51, 118, 97, 108, 69] ∧ a.resolve ≠ b.resolve := by
  decide

/-- Collision class `dot-dash`: `p.q/` and `p-q/`: the dot is replaced by a dash.  Both are `FFN3p-q1f3valE`. -/
theorem mangle_injective_counterexample_dot_dash :
    let a : Entity := ⟨⟨.cwd, [[112, 46, 113], [102, 46, 99, 97, 112, 121]]⟩, .global [118, 97, 108], none, .code⟩
    let b : Entity := ⟨⟨.cwd, [[112, 45, 113], [102, 46, 99, 97, 112, 121]]⟩, .global [118, 97, 108], none, .code⟩
    mangle a = some [70, 70, 78, 51, 112, 45, 113, 49, 102, 51, 118, 97, 108, 69] ∧ mangle b = some [70, 70, 78, 51, 112, 45, 113, 49, 102, 51, 118, 97, 108, 69] ∧ a.resolve ≠ b.resolve := by
  decide

/-- Collision class `dot-dash-capy`: `foo.capy.capy` and `foo-capy.capy`.  Both are `FN8foo-capy3valE`. -/
theorem mangle_injective_counterexample_dot_dash_capy :
    let a : Entity := ⟨⟨.cwd, [[102, 111, 111, 46, 99, 97, 112, 121, 46, 99, 97, 112, 121]]⟩, .global [118, 97, 108], none, .code⟩
    let b : Entity := ⟨⟨.cwd, [[102, 111, 111, 45, 99, 97, 112, 121, 46, 99, 97, 112, 121]]⟩, .global [118, 97, 108], none, .code⟩
    mangle a = some [70, 78, 56, 102, 111, 111, 45, 99, 97, 112, 121, 51, 118, 97, 108, 69] ∧ mangle b = some [70, 78, 56, 102, 111, 111, 45, 99, 97, 112, 121, 51, 118, 97, 108, 69] ∧ a.resolve ≠ b.resolve := by
  decide

/-- Collision class `src-skip`: `a/src/x.capy` and `b/src/x.capy`: the `src` skip drops the *first* component of a non-module path.  Both are `FFN3src1x3valE`. -/
theorem mangle_injective_counterexample_src_skip :
    let a : Entity := ⟨⟨.cwd, [[97], [115, 114, 99], [120, 46, 99, 97, 112, 121]]⟩, .global [118, 97, 108], none, .code⟩
    let b : Entity := ⟨⟨.cwd, [[98], [115, 114, 99], [120, 46, 99, 97, 112, 121]]⟩, .global [118, 97, 108], none, .code⟩
    mangle a = some [70, 70, 78, 51, 115, 114, 99, 49, 120, 51, 118, 97, 108, 69] ∧ mangle b = some [70, 70, 78, 51, 115, 114, 99, 49, 120, 51, 118, 97, 108, 69] ∧ a.resolve ≠ b.resolve := by
  decide

/-- Collision class `src-skip-mod`: module files `m/src/x.capy` and `m/x.capy`.  Both are `MFN1m1x3valE`. -/
theorem mangle_injective_counterexample_src_skip_mod :
    let a : Entity := ⟨⟨.mod, [[109], [115, 114, 99], [120, 46, 99, 97, 112, 121]]⟩, .global [118, 97, 108], none, .code⟩
    let b : Entity := ⟨⟨.mod, [[109], [120, 46, 99, 97, 112, 121]]⟩, .global [118, 97, 108], none, .code⟩
    mangle a = some [77, 70, 78, 49, 109, 49, 120, 51, 118, 97, 108, 69] ∧ mangle b = some [77, 70, 78, 49, 109, 49, 120, 51, 118, 97, 108, 69] ∧ a.resolve ≠ b.resolve := by
  decide

/-- Collision class `capy-strip`: a directory `x.capy` and a directory `x`.  Both are `FFN1x1y3valE`. -/
theorem mangle_injective_counterexample_capy_strip :
    let a : Entity := ⟨⟨.cwd, [[120, 46, 99, 97, 112, 121], [121, 46, 99, 97, 112, 121]]⟩, .global [118, 97, 108], none, .code⟩
    let b : Entity := ⟨⟨.cwd, [[120], [121, 46, 99, 97, 112, 121]]⟩, .global [118, 97, 108], none, .code⟩
    mangle a = some [70, 70, 78, 49, 120, 49, 121, 51, 118, 97, 108, 69] ∧ mangle b = some [70, 70, 78, 49, 120, 49, 121, 51, 118, 97, 108, 69] ∧ a.resolve ≠ b.resolve := by
  decide

/-- **C27, distinctness, full strength, is false of the current code.** -/
theorem mangle_injective_counterexample :
    ¬ (∀ a b : Entity, (mangle a).isSome → mangle a = mangle b → a.resolve = b.resolve) := by
  intro h
  have := mangle_injective_counterexample_digit_escape
  simp only at this
  refine this.2.2 (h _ _ ?_ ?_)
  · rw [this.1]
    rfl
  · rw [this.1, this.2.1]

/-- `lib/util.capy`, global `val` -/
def exUtil : Entity :=
  ⟨⟨.cwd, [[108, 105, 98], [117, 116, 105, 108, 46, 99, 97, 112, 121]]⟩, .global [118, 97, 108], none, .code⟩
/-- module file `core/src/mod.capy`, lambda#3 of generic instance 7, comptime block 12, data `init_flag` -/
def exCore : Entity :=
  ⟨⟨.mod, [[99, 111, 114, 101], [115, 114, 99], [109, 111, 100, 46, 99, 97, 112, 121]]⟩, .lambda 3 none, some 7,
    .comptimeData 12 [105, 110, 105, 116, 95, 102, 108, 97, 103]⟩
/-- lambda#5 bound to global `val` in `lib/util.capy` -/
def exBound : Entity := { exUtil with base := .lambda 5 (some [118, 97, 108]) }

example : WF exUtil = true := by decide
example : WF exCore = true := by decide
example : WF exBound = true := by decide
/-- `FFN3lib4util3valE` -/
example : mangle exUtil =
    some [70, 70, 78, 51, 108, 105, 98, 52, 117, 116, 105, 108, 51, 118, 97, 108, 69] := by decide
/-- `MFLGZI4core3mod2l32g73z129init_flagE` -/
example : mangle exCore = some [77, 70, 76, 71, 90, 73, 52, 99, 111, 114, 101, 51, 109, 111, 100, 50, 108,
    51, 50, 103, 55, 51, 122, 49, 50, 57, 105, 110, 105, 116, 95, 102, 108, 97, 103, 69] := by decide
example : mangle exBound = mangle exUtil ∧ exBound ≠ exUtil ∧ exBound.resolve = exUtil.resolve := by
  decide
/-- a file outside `mod_dir` and the current directory: `unreachable!()` -/
example : mangle { exUtil with file := ⟨.outside, exUtil.file.comps⟩ } = none := by decide
/-- the guard tells the `digit-escape` pair apart: `1/f.capy` passes, `f1/f.capy` does not -/
example : WF ⟨⟨.cwd, [[49], [102, 46, 99, 97, 112, 121]]⟩, .global [118, 97, 108], none, .code⟩ = true ∧
    WF ⟨⟨.cwd, [[102, 49], [102, 46, 99, 97, 112, 121]]⟩, .global [118, 97, 108], none, .code⟩ = false := by
  decide
/-- `_CI4commE` starts with `_CI4` -/
example : (mangleInternal [99, 111, 109, 109]).take 4 = [95, 67, 73, 52] := by decide

end CapyV.C27
