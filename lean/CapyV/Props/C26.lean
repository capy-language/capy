import CapyV.Proofs.Sched
/-!
# C26 — inference scheduling offers exactly the ready work and detects true cycles

Vocabulary:
* `CapyV.Topo` — the model of `topo::TopoSort` (`run [] ops` = the state after the mutating
  calls `ops`, `none` = the `num_children -= 1` underflow panic);
* `CapyV.SchedSpec` — the property's own reading of a history (`after Abs.empty ops = some a`:
  the history follows the usage protocol and `a` is its abstract state: pending items,
  completed items, every registration ever made; `readyList`, `depsDone`, `waits`, `cyclic`);
* `CapyV.Sched` — the round loop of `InferenceCtx::finish`. The last two theorems below are stated
  in the terms of `Spec/SchedRounds.lean`: `scriptFresh` / `depsFresh` (the checker's protocol,
  round by round), `expectedOffers` (what the rounds must offer, from the history alone),
  `Result.ok` (no panic).
All statements are for every history, with no bound on items or rounds.
-/
namespace CapyV.C26
open CapyV.Topo CapyV.SchedSpec CapyV.Sched

/-- On every protocol-following history the real arithmetic never underflows (`remove`
never panics), and the state satisfies the counting invariant. -/
theorem no_underflow (ops : List Op) (a : Abs) (h : after Abs.empty ops = some a) :
    ∃ s, run [] ops = some s ∧ Inv a s :=
  inv_run inv_empty ops h

/-- **Headline.** After every protocol-following history, `peek_all` reports a cycle
exactly when the specification says so, and otherwise offers exactly — in registration
order — the pending items all of whose registered dependencies have completed. -/
theorem peekAll_exact (ops : List Op) (a : Abs) (s : Topo)
    (h : after Abs.empty ops = some a) (hs : run [] ops = some s) :
    peekAll s = (if cyclic a then .cycle else .ok (readyList a)) ∧
    (∀ x, x ∈ readyList a ↔ (x ∈ a.pend ∧ ∀ c, (x, c) ∈ a.regs → c ∈ a.done)) :=
  ⟨(inv_of_run h hs).peekAll_spec, fun _ => mem_readyList⟩

/-- `in_cycle` / `peek_all_cyclic` agree with the specification's cycle verdict, and a
cycle-breaking round offers exactly the pending items. -/
theorem inCycle_iff (ops : List Op) (a : Abs) (s : Topo)
    (h : after Abs.empty ops = some a) (hs : run [] ops = some s) :
    inCycle s = cyclic a ∧ peekAllCyclic s = (if cyclic a then some a.pend else none) := by
  have hi := inv_of_run h hs
  simp [peekAllCyclic, hi.cyclic_eq_inCycle, hi.keys_eq]

/-- A cycle is reported only when something is pending and every pending item still waits
on a pending item. -/
theorem cycle_only_when_all_wait (ops : List Op) (a : Abs) (s : Topo)
    (h : after Abs.empty ops = some a) (hs : run [] ops = some s) (hc : peekAll s = .cycle) :
    a.pend ≠ [] ∧ ∀ x ∈ a.pend, ∃ c, (x, c) ∈ a.regs ∧ c ∈ a.pend := by
  rw [(inv_of_run h hs).peekAll_spec] at hc
  split at hc
  · rename_i hcy
    simp only [cyclic, Bool.and_eq_true, Bool.not_eq_true', List.isEmpty_eq_false_iff,
      List.all_eq_true] at hcy
    exact ⟨hcy.1, fun x hx => waits_iff.1 (hcy.2 x hx)⟩
  · cases hc

/-- Whatever is offered (by `peek_all` or by a cycle-breaking `peek_all_cyclic`) is
pending: registered and not completed since. -/
theorem offered_only_if_pending (ops : List Op) (a : Abs) (s : Topo)
    (h : after Abs.empty ops = some a) (hs : run [] ops = some s) :
    (∀ l, peekAll s = .ok l → ∀ x ∈ l, x ∈ a.pend ∧ x ∉ a.done) ∧
    (∀ l, peekAllCyclic s = some l → ∀ x ∈ l, x ∈ a.pend ∧ x ∉ a.done) := by
  have hi := inv_of_run h hs
  have hp : ∀ x ∈ keys s, x ∈ a.pend ∧ x ∉ a.done := fun x hx =>
    have := hi.keys_eq ▸ hx
    ⟨this, hi.disj x this⟩
  exact ⟨fun l hl x hx => hp x (mem_keys_of_peekAll hl x hx),
    fun l hl x hx => hp x (peekAllCyclic_eq_some hl ▸ hx)⟩

/-- An item is offered again only after it was re-registered: `remove` takes the item out
of the map (whatever the state), and only items in the map are ever offered. -/
theorem removed_not_offered (s s' : Topo) (x : Nat) (b : Bool) (h : remove s x = some (s', b)) :
    x ∉ keys s' ∧ (∀ l, peekAll s' = .ok l → x ∉ l) ∧ (∀ l, peekAllCyclic s' = some l → x ∉ l) := by
  have hk : x ∉ keys s' := by
    rw [remove_keys h]
    simp
  exact ⟨hk, fun l hl hx => hk (mem_keys_of_peekAll hl x hx),
    fun l hl hx => hk (peekAllCyclic_eq_some hl ▸ hx)⟩

/-- The schedule is empty exactly when nothing is pending, and holds as many entries as there are
pending items: once every item has completed, `is_empty()` holds and the loop of `finish` stops. -/
theorem empties_when_all_complete (ops : List Op) (a : Abs) (s : Topo)
    (h : after Abs.empty ops = some a) (hs : run [] ops = some s) :
    s.isEmpty = a.pend.isEmpty ∧ s.length = a.pend.length := by
  have hi := inv_of_run h hs
  exact ⟨hi.isEmpty_eq, by rw [← hi.keys_eq, keys, List.length_map]⟩

/-- Outside the protocol the model (like the code in an overflow-checked build) does
underflow: re-inserting a completed parent while a child that still lists it is pending.
This is exactly the hypothesis the proof of `no_underflow` uses. -/
theorem underflow_outside_protocol :
    run [] [.dep 1 2, .remove 1, .insert 1, .remove 2] = none ∧
    after Abs.empty [.dep 1 2, .remove 1, .insert 1, .remove 2] = none := by
  decide

/-- Outside the protocol work can also be lost without a panic: a completed parent that
registers the same dependency again hits the "already registered" early return (the stale
edge is still in the child's parent set) and is never scheduled again. -/
theorem lost_item_outside_protocol :
    (run [] [.dep 1 2, .remove 1, .dep 1 2]).map keys = some [2] ∧
    after Abs.empty [.dep 1 2, .remove 1, .dep 1 2] = none := by
  decide

/-- **The round loop of `InferenceCtx::finish`.** Start from `extend` of distinct items;
let `infer` answer anything, as long as the checker's protocol holds (`scriptFresh`: each
round processes exactly the offered items, each completes or registers dependencies on
not-yet-completed items, possibly brand-new ones; cycle-breaking rounds may complete items
that have pending dependencies). Then the loop never panics (`peek_all_cyclic().unwrap()`,
`assert!(!leaves.is_empty())`, `num_children -= 1`), and in every round — for any number of
items and rounds — what it takes as `leaves` is exactly what the specification computes
from the history alone: the ready items, or all pending items when a cycle is to be reported. -/
theorem finish_offers_exact (items : List Nat) (hn : items.Nodup) (rs : List RoundScript)
    (hp : scriptFresh (step Abs.empty (.extend items)) rs) :
    (finish items rs).ok = true ∧
    (items ≠ [] → offers (extend [] items) rs = expectedOffers (step Abs.empty (.extend items)) rs) := by
  obtain ⟨s, hs, hi⟩ := inv_step inv_empty (.extend items) (by simp [legal, Abs.empty, hn])
  cases hs
  unfold finish
  by_cases he : (extend [] items).isEmpty = true
  · refine ⟨by simp [he, Result.ok], fun hne => ?_⟩
    obtain ⟨x, hx⟩ := List.exists_mem_of_ne_nil items hne
    have : x ∈ (step Abs.empty (.extend items)).pend := mem_addAll_pend.2 (.inr hx)
    rw [hi.eq_nil_iff.1 (List.isEmpty_iff.1 he)] at this
    cases this
  · obtain ⟨h1, h2⟩ := finishLoop_spec rs 0 hi (mt List.isEmpty_iff.2 he) hp
    simp only [he, Bool.false_eq_true, if_false]
    exact ⟨h1, fun _ => h2⟩

/-- A round that processes distinct pending items and names only not-yet-completed
dependencies is a protocol-following history in the sense of the theorems above (so the
checker's per-round protocol is an instance of `after … = some _`). -/
theorem checker_round_is_legal (r : RoundScript) (a : Abs) (s : Topo) (hi : Inv a s)
    (hn : (r.map (·.1)).Nodup) (hp : ∀ x ∈ r.map (·.1), x ∈ a.pend) (hf : depsFresh a.done r) :
    ∃ a', after a (roundOps r) = some a' :=
  script_legal r hn (fun x hx => ⟨hp x hx, hi.disj x (hp x hx)⟩) hf

/-- a protocol-following history with a real cycle, a cycle-breaking round and a late item -/
example : (after Abs.empty [.extend [1, 2, 3], .deps 1 [2], .deps 2 [1, 4], .remove 3, .remove 4,
    .remove 1, .remove 2]).isSome = true := by decide

example : (run [] [.extend [1, 2, 3], .deps 1 [2], .deps 2 [1, 4], .remove 3, .remove 4]).map peekAll
    = some .cycle := by decide

example : (after Abs.empty [.extend [1, 2, 3], .deps 1 [2], .deps 2 [1, 4], .remove 3, .remove 4]).map cyclic
    = some true := by decide

example : (run [] [.extend [1, 2, 3], .deps 1 [2, 3], .remove 3]).map peekAll = some (.ok [2]) := by
  decide

/-- `a :: b; b :: a; c :: 5` as the checker runs it: round 1 offers everything, `a` and `b`
register each other; round 2 is a cycle-breaking round that completes both. -/
example : finish [1, 2, 3] [[(1, .needs [2]), (2, .needs [1]), (3, .complete)],
    [(1, .complete), (2, .complete)]] = .finished 2 := by decide

example : offers (extend [] [1, 2, 3]) [[(1, .needs [2]), (2, .needs [1]), (3, .complete)],
    [(1, .complete), (2, .complete)]] = [([1, 2, 3], false), ([1, 2], true)] := by decide

/-- the hypothesis `scriptFresh` is satisfiable: a run over `[1, 2]` in which `1` asks for a brand-new
item `4` -/
example : scriptFresh (step Abs.empty (.extend [1, 2])) [[(1, .needs [4]), (2, .complete)],
    [(4, .complete)], [(1, .complete)]] := by
  refine ⟨by decide, ⟨by decide, trivial⟩, fun a' h => ?_⟩
  cases h
  refine ⟨by decide, trivial, fun a' h => ?_⟩
  cases h
  exact ⟨by decide, trivial, fun _ _ => trivial⟩

end CapyV.C26
