import CapyV.Proofs.TyRel.Fit
/-!
# C14, the conversion side — an implicit pointer conversion never hands out write access

`get_mutability` (Props/C14.lean) decides what may be written THROUGH a place of a given type; the
type of a pointer is decided when it is created and every time it is converted. These theorems are
about the transcription `CapyV.Ty.canFitInto` (Model/TyRel.lean, tied to `Ty::can_fit_into` by the
C12 correspondence and, for the towers below, by the stream of harness/src/c14_fit.rs) on towers of
pointers `^m₀ ^m₁ … ^mₖ base`:

* `fit_no_gain` — no level becomes writable: where the expected type says `^mut`, the found type
  said `^mut` at the same level.
* `fit_invariant_below_top` — below the outermost pointer the two towers are IDENTICAL. This is what
  closes the `T** → const T**` hole: if `^mut ^mut T` were accepted as `^mut ^T`, a `^T` to immutable
  data could be stored through it into a variable of type `^mut T`.

Both are stated for a base type that is not weak (`mightBeWeak = false`): a weak pointee (`{uint}`)
is re-typed by the conversion itself rather than viewed through it.
-/
namespace CapyV.C14Fit
open CapyV CapyV.Ty

/-- `^m₀ ^m₁ … base`, outermost first -/
def tower (ms : List Bool) (base : Ty) : Ty := ms.foldr Ty.pointer base

@[simp] theorem tower_nil (b : Ty) : tower [] b = b := rfl
@[simp] theorem tower_cons (m : Bool) (ms : List Bool) (b : Ty) : tower (m :: ms) b = .pointer m (tower ms b) := rfl

/-! ## towers with slice levels

A slice is a writable view of its elements (`s[i] = v` needs no `^mut`), so below a slice level
nothing may change either. The pointer towers are the towers all of whose levels are pointers. -/

/-- one level of a tower: a pointer with its mutability, or a slice -/
inductive Level where
  | ptr (m : Bool)
  | slice
  deriving DecidableEq, Repr

def Level.wrap : Level → Ty → Ty
  | .ptr m, t => .pointer m t
  | .slice, t => .slice t

/-- same constructor (pointer / slice), whatever the mutability -/
def Level.sameKind : Level → Level → Bool
  | .ptr _, .ptr _ => true
  | .slice, .slice => true
  | _, _ => false

def mtower (ls : List Level) (base : Ty) : Ty := ls.foldr Level.wrap base

@[simp] theorem mtower_nil (b : Ty) : mtower [] b = b := rfl
@[simp] theorem mtower_cons (l : Level) (ls : List Level) (b : Ty) :
    mtower (l :: ls) b = l.wrap (mtower ls b) := rfl

theorem mtower_mightBeWeak (ls : List Level) (b : Ty) : (mtower ls b).mightBeWeak = b.mightBeWeak := by
  induction ls with
  | nil => rfl
  | cons l ls ih => cases l <;> simp [Level.wrap, Ty.mightBeWeak, ih]

def sameShape : List Level → List Level → Bool
  | [], [] => true
  | a :: as, b :: bs => a.sameKind b && sameShape as bs
  | _, _ => false

/-- two towers of the same shape over the same base that are equal, or functionally equivalent
(which compares pointer mutabilities and looks through nothing else here), are the same tower -/
theorem mtower_inj (s d : List Level) (b : Ty) (hs : sameShape s d = true)
    (h : mtower s b = mtower d b ∨ isFuncEquiv (mtower s b) (mtower d b) false = true) : s = d := by
  induction s generalizing d with
  | nil => cases d with
    | nil => rfl
    | cons _ _ => simp [sameShape] at hs
  | cons x s ih => cases d with
    | nil => simp [sameShape] at hs
    | cons y d =>
      simp only [sameShape, Bool.and_eq_true] at hs
      cases x <;> cases y <;> simp only [Level.sameKind] at hs
      · simp only [mtower_cons, Level.wrap, pointer.injEq] at h
        rw [isFuncEquiv] at h
        simp only [Bool.and_eq_true, beq_iff_eq] at h
        rw [h.elim (·.1) (·.1), ih d hs.2 (h.imp (·.2) (·.2))]
      · cases hs.1
      · cases hs.1
      · simp only [mtower_cons, Level.wrap, slice.injEq] at h
        rw [isFuncEquiv] at h
        rw [ih d hs.2 h]

theorem fit_pointer {fm em : Bool} {fs es : Ty} (hw : fs.mightBeWeak = false)
    (h : canFitInto (.pointer fm fs) (.pointer em es) = true) :
    mutOk fm em = true ∧ (fs = es ∨ isFuncEquiv fs es false = true) := by
  rcases (fit_pointer_pointer ..).1 h with ⟨rfl, rfl⟩ | h
  · exact ⟨by cases fm <;> rfl, .inl rfl⟩
  · simp only [hw, Bool.false_and, Bool.false_or, Bool.and_eq_true] at h
    exact ⟨h.1, .inr h.2⟩

/-- **below the outermost level nothing changes**, whether that level is a pointer or a slice -/
theorem mfit_invariant_below_top (x y : Level) (s d : List Level) (b : Ty) (hb : b.mightBeWeak = false)
    (hs : sameShape (x :: s) (y :: d) = true)
    (h : canFitInto (mtower (x :: s) b) (mtower (y :: d) b) = true) : s = d := by
  simp only [sameShape, Bool.and_eq_true] at hs
  cases x <;> cases y <;> simp only [Level.sameKind] at hs
  · exact mtower_inj s d b hs.2 (fit_pointer ((mtower_mightBeWeak s b).trans hb) h).2
  · cases hs.1
  · cases hs.1
  · exact mtower_inj s d b hs.2 ((fit_slice_slice ..).1 h)

/-- a slice of mutable pointers is not accepted where a slice of immutable pointers is expected
(through the slice, an immutable pointer could be stored into an array of `^mut T`) -/
theorem no_const_cast_hole_slice (b : Ty) (hb : b.mightBeWeak = false) :
    canFitInto (.slice (.pointer true b)) (.slice (.pointer false b)) = false := by
  cases h : canFitInto (.slice (.pointer true b)) (.slice (.pointer false b)) with
  | false => rfl
  | true =>
    have := mfit_invariant_below_top .slice .slice [.ptr true] [.ptr false] b hb rfl
      (by simpa [Level.wrap] using h)
    simp at this

theorem tower_eq_mtower (ms : List Bool) (b : Ty) : tower ms b = mtower (ms.map .ptr) b :=
  (List.foldr_map (f := Level.ptr) (g := Level.wrap)).symm

theorem sameShape_ptr : ∀ (s d : List Bool), s.length = d.length →
    sameShape (s.map .ptr) (d.map .ptr) = true
  | [], [], _ => rfl
  | _ :: s, _ :: d, h => by simp [sameShape, Level.sameKind, sameShape_ptr s d (Nat.succ.inj h)]

/-- below the outermost pointer nothing changes -/
theorem fit_invariant_below_top (m m' : Bool) (s d : List Bool) (b : Ty) (hb : b.mightBeWeak = false)
    (hl : s.length = d.length)
    (h : canFitInto (tower (m :: s) b) (tower (m' :: d) b) = true) : s = d := by
  rw [tower_eq_mtower, tower_eq_mtower] at h
  have := mfit_invariant_below_top _ _ _ _ b hb
    (by simp [sameShape, Level.sameKind, sameShape_ptr s d hl]) h
  exact (List.map_inj_right fun _ _ => Level.ptr.inj).1 this

/-- no level gains write access -/
theorem fit_no_gain (s d : List Bool) (b : Ty) (hb : b.mightBeWeak = false) (hl : s.length = d.length)
    (h : canFitInto (tower s b) (tower d b) = true) (i : Nat) (hd : d[i]? = some true) :
    s[i]? = some true := by
  cases s with
  | nil => cases d with
    | nil => simp at hd
    | cons _ _ => simp at hl
  | cons m s => cases d with
    | nil => simp at hl
    | cons m' d =>
      simp only [List.length_cons, Nat.add_right_cancel_iff] at hl
      have htail := fit_invariant_below_top m m' s d b hb hl h
      subst htail
      cases i with
      | zero =>
        have hw : (tower s b).mightBeWeak = false := by
          rw [tower_eq_mtower, mtower_mightBeWeak, hb]
        rw [tower_cons, tower_cons] at h
        have := (fit_pointer hw h).1
        simp only [List.getElem?_cons_zero, Option.some.injEq] at hd ⊢
        subst hd
        cases m <;> simp [mutOk] at this ⊢
      | succ i => simpa using hd

/-- the classic hole, stated outright: a mutable pointer to a MUTABLE pointer is not accepted where a
mutable pointer to an IMMUTABLE pointer is expected -/
theorem no_const_cast_hole (b : Ty) (hb : b.mightBeWeak = false) :
    canFitInto (.pointer true (.pointer true b)) (.pointer true (.pointer false b)) = false := by
  cases h : canFitInto (.pointer true (.pointer true b)) (.pointer true (.pointer false b)) with
  | false => rfl
  | true =>
    have := fit_invariant_below_top true true [true] [false] b hb rfl (by simpa using h)
    simp at this

/-- non-vacuity: the conversions that only DROP write access at the top are accepted -/
example : canFitInto (tower [true, false, true] (.iint 32)) (tower [false, false, true] (.iint 32)) = true := by
  simp [tower, fit_pointer_pointer, mutOk, isFuncEquiv, Ty.mightBeWeak]

end CapyV.C14Fit
