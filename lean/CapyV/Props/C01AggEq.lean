import CapyV.Model.AggEq
/-!
C01 — aggregate comparison is structural equality: `veq a b = true ↔ a = b` (so `==` is reflexive,
symmetric, and two arrays that agree on item 0 but differ at a later item are different — the shape
of seeded change C01_1, which read items ≥ 1 at `i * size` instead of `i * stride`).
-/
namespace CapyV.C01AggEq
open CapyV.AggEq

mutual
/-- **`==` on aggregates is equality of values.** -/
theorem veq_iff (a b : V) : veq a b = true ↔ a = b :=
  match a, b with
  | .int x, .int y => by simp [veq]
  | .nil, .nil => by simp [veq]
  | .tag k v, .tag l w => by simp [veq, veq_iff v w]
  | .agg vs, .agg ws => by simp [veq, veqs_iff vs ws]
  | .int _, .nil | .int _, .tag _ _ | .int _, .agg _
  | .nil, .int _ | .nil, .tag _ _ | .nil, .agg _
  | .tag _ _, .int _ | .tag _ _, .nil | .tag _ _, .agg _
  | .agg _, .int _ | .agg _, .nil | .agg _, .tag _ _ => by simp [veq]
theorem veqs_iff (as bs : List V) : veqs as bs = true ↔ as = bs :=
  match as, bs with
  | [], [] => by simp [veqs]
  | v :: vs, w :: ws => by simp [veqs, veq_iff v w, veqs_iff vs ws]
  | [], _ :: _ | _ :: _, [] => by simp [veqs]
end

theorem veqs_refl : (as : List V) → veqs as as = true :=
  fun as => (veqs_iff as as).mpr rfl

theorem eqs_of_veqs : (as bs : List V) → veqs as bs = true → as = bs :=
  fun as bs => (veqs_iff as bs).mp

theorem veq_symm (a b : V) : veq a b = veq b a :=
  Bool.eq_iff_iff.mpr ((veq_iff a b).trans (eq_comm.trans (veq_iff b a).symm))

/-- two arrays that differ at some index are not equal, wherever the index is -/
theorem arrays_differing_somewhere (vs ws : List V) (i : Nat) (hi : i < vs.length) (hj : i < ws.length)
    (hd : veq (vs[i]) (ws[i]) = false) : veq (.agg vs) (.agg ws) = false := by
  cases h : veq (.agg vs) (.agg ws)
  · rfl
  · have := (veq_iff _ _).mp h
    injection this with this
    subst this
    rw [(veq_iff _ _).mpr rfl] at hd
    cases hd

example : veq (.agg [.tag 1 (.int 1), .tag 1 (.int 2), .tag 1 (.int 3)])
              (.agg [.tag 1 (.int 1), .tag 1 (.int 2), .tag 1 (.int 4)]) = false := by decide

end CapyV.C01AggEq
