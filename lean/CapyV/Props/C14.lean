import CapyV.Proofs.Mutability
/-!
# C14 — immutable data can never be modified

`getMutability true` is `get_mutability` after FIX.patch, `getMutability false` the function
pinned in /repo (kept for the counterexamples: the defects are real in the model of the old
code). `assignRejected` ⇔ `CannotMutate` is reported for `dest = v` / `dest op= v`;
`mutRefRejected` ⇔ `MutableRefToImmutableData` is reported for `^mut inner`.
-/
namespace CapyV.C14
open CapyV.Mutability

/-- **C14, soundness (full statement, fixed code).** For every well-typed target — any
nesting depth, any mixture of the constructors — whatever the walk lets through is not
read-only in the place semantics: not a `::` local / parameter / global or a field or element
of one, and not reached through a pointer hop whose (last) pointer is immutable. Holds for the
assignment call site (`assignment = true`) and the `^mut` call site (`assignment = false`). -/
theorem sound (e : Expr) (a : Bool) (t : Ty) (wt : typeOf e = some t)
    (h : getMutability true e a false = .mutable) : verdict e ≠ .readonly := by
  intro hv
  exact (fixed_exact e a t wt).2 hv h

/-- **C14, completeness (full statement, fixed code).** Every well-typed target that is
writable in the place semantics (`:=` local or a field/element of it; anything reached through a
last hop that is `^mut`, explicit or auto-dereferenced) is accepted. -/
theorem complete (e : Expr) (a : Bool) (t : Ty) (wt : typeOf e = some t)
    (h : verdict e = .writable) : getMutability true e a false = .mutable :=
  (fixed_exact e a t wt).1 h

/-- plain and compound assignment: `CannotMutate` ⇔ not writable, wherever the property speaks -/
theorem assign_rejected_iff (dest : Expr) (t : Ty) (wt : typeOf dest = some t)
    (spec : verdict dest ≠ .unspecified) :
    assignRejected true dest = true ↔ verdict dest = .readonly :=
  rejected_iff dest true t wt spec

/-- `^mut inner`: `MutableRefToImmutableData` ⇔ `inner` is not writable -/
theorem mutref_rejected_iff (inner : Expr) (t : Ty) (wt : typeOf inner = some t)
    (spec : verdict inner ≠ .unspecified) :
    mutRefRejected true inner = true ↔ verdict inner = .readonly :=
  rejected_iff inner false t wt spec

/-- the two call sites agree on every place (they only differ in the help text) -/
theorem assign_and_mutref_agree (e : Expr) (t : Ty) (wt : typeOf e = some t)
    (spec : verdict e ≠ .unspecified) :
    assignRejected true e = mutRefRejected true e :=
  Bool.eq_iff_iff.2 ((assign_rejected_iff e t wt spec).trans (mutref_rejected_iff e t wt spec).symm)

/-- under `deref` the fixed function looks at nothing but the pointer type: not at the
initialiser of a local, not at the form of the expression -/
theorem deref_decided_by_type (e : Expr) (a m : Bool) (t : Ty) (h : tyOf e = .ptr m t) :
    getMutability true e a true = .mutable ↔ m = true :=
  fixed_deref_iff e a h

/-- a target that is writable in the narrowest reading of the property (every pointer on the
way is `^mut`) is accepted — the harness reports a false rejection only for these -/
theorem surely_writable_accepted (e : Expr) (a : Bool) (t : Ty) (wt : typeOf e = some t)
    (h : (place e).surelyWritable = true) : getMutability true e a false = .mutable :=
  complete e a t wt (Place.surelyWritable_writable _ h)

/-- the model with `fixed = false` is the walk alone (the pinned function) -/
theorem old_is_walk (ty : Ty) (d : Bool) (m : Mut) : byType false ty d m = m :=
  rfl

def i32Lit : Expr := .other .int
/-- `x := 1;` -/
def xMut : Expr := .loc true .int i32Lit

/-- `x := 1; p : ^i32 = ^mut x; p^ = 5;` is accepted: the declared type `^i32` of `p` is
ignored, the form `^mut x` of its initialiser decides (DESIGN.md §6 #13). -/
theorem sound_counterexample_declared_type :
    let p := Expr.loc true (.ptr false .int) (.ref true xMut)
    typeOf (.deref p) = some .int ∧
    getMutability false (.deref p) true false = .mutable ∧ verdict (.deref p) = .readonly :=
  ⟨rfl, rfl, rfl⟩

/-- `arr : [2]i32 : ..; p := ^arr; pp := ^mut p; pp[1] = 50;` — indexing follows BOTH pointer
levels, the data is reached through the immutable inner one: read-only. The walk without
`innermost_auto_deref` (the pinned function, and the tree before the second `fix:` commit of C14)
looks at the outermost pointer only and accepts; the fixed function rejects. The same for
`pp.field`. -/
theorem sound_counterexample_double_pointer_index :
    let arr := Expr.loc false (.arr .int) (.arrayLit .int)
    let p := Expr.loc true (.ptr false (.arr .int)) (.ref false arr)
    let pp := Expr.loc true (.ptr true (.ptr false (.arr .int))) (.ref true p)
    typeOf (.index pp) = some .int ∧ verdict (.index pp) = .readonly ∧
    getMutability false (.index pp) true false = .mutable ∧
    getMutability true (.index pp) true false = .immutableRef :=
  ⟨rfl, rfl, rfl, rfl⟩

theorem sound_counterexample_double_pointer_member :
    let s := Expr.loc false (.struct 1) (.structLit (.struct 1))
    let p := Expr.loc true (.ptr false (.struct 1)) (.ref false s)
    let pp := Expr.loc true (.ptr true (.ptr false (.struct 1))) (.ref true p)
    typeOf (.member pp .int) = some .int ∧ verdict (.member pp .int) = .readonly ∧
    getMutability false (.member pp .int) true false = .mutable ∧
    getMutability true (.member pp .int) true false = .immutableRef :=
  ⟨rfl, rfl, rfl, rfl⟩

/-- the other way round is accepted: `q : ^ ^mut [2]i32; q[1] = 5` writes through the `^mut` inner
pointer (as the explicit `q^^[1] = 5` does) -/
example :
    let q := Expr.param (.ptr false (.ptr true (.arr .int)))
    verdict (.index q) = .writable ∧ getMutability true (.index q) true false = .mutable :=
  ⟨rfl, rfl⟩

/-- `pp := ^mut p; q := pp^; q^ = 5;` with `p : ^i32`: `q : ^i32`, accepted because the walk
through `q`'s initialiser ends at `^mut p`. -/
theorem sound_counterexample_copied_pointer :
    let p := Expr.loc true (.ptr false .int) (.ref false xMut)
    let pp := Expr.loc true (.ptr true (.ptr false .int)) (.ref true p)
    let q := Expr.loc true (.ptr false .int) (.deref pp)
    typeOf (.deref q) = some .int ∧
    getMutability false (.deref q) true false = .mutable ∧ verdict (.deref q) = .readonly :=
  ⟨rfl, rfl, rfl⟩

/-- `f()^ = 5;` is accepted for every `f` returning `^T` (`Expr::Call if deref => Mutable`). -/
theorem sound_counterexample_call (t : Ty) :
    typeOf (.deref (.call (.ptr false t))) = some t ∧
    getMutability false (.deref (.call (.ptr false t))) true false = .mutable ∧
    verdict (.deref (.call (.ptr false t))) = .readonly := by
  simp [typeOf, getMutability, byType, verdict, place, tyOf, temp, Place.hop, Place.verdict]

/-- `f :: (a : ^mut ^i32) { a^^ = 5; }` is accepted: the `deref` flag travels down to the
parameter, whose own (outer) pointer type `^mut` answers for the inner, immutable pointer. -/
theorem sound_counterexample_nested_pointer_param :
    let e := Expr.deref (.deref (.param (.ptr true (.ptr false .int))))
    typeOf e = some .int ∧ getMutability false e true false = .mutable ∧
    verdict e = .readonly ∧ getMutability true e true false = .immutableRef :=
  ⟨rfl, rfl, rfl, rfl⟩

/-- `ptrs := .[^x, ^x]; ptrs[0]^ = 5;` is accepted: the `deref` flag is carried through the
index down to the local, whose initialiser is an array literal (`=> Mutable`). -/
theorem sound_counterexample_array_of_pointers :
    let ptrs := Expr.loc true (.arr (.ptr false .int)) (.arrayLit (.ptr false .int))
    typeOf (.deref (.index ptrs)) = some .int ∧
    getMutability false (.deref (.index ptrs)) true false = .mutable ∧
    verdict (.deref (.index ptrs)) = .readonly :=
  ⟨rfl, rfl, rfl⟩

/-- `s.ps[0]^ = 5;` with field `ps : [2]^i32`: the `Member .. if deref` arm answers
`as_pointer().unwrap_or(true)` for the non-pointer field type. Same for `#unwrap(s.op)^`
with `op : ?^i32`. -/
theorem sound_counterexample_field_of_pointers :
    let s := Expr.loc true (.struct 0) (.structLit (.struct 0))
    let e1 := Expr.deref (.index (.member s (.arr (.ptr false .int))))
    let e2 := Expr.deref (.unwrap (.member s (.opt (.ptr false .int))))
    (typeOf e1 = some .int ∧ getMutability false e1 true false = .mutable ∧ verdict e1 = .readonly) ∧
    (typeOf e2 = some .int ∧ getMutability false e2 true false = .mutable ∧ verdict e2 = .readonly) :=
  ⟨⟨rfl, rfl, rfl⟩, ⟨rfl, rfl, rfl⟩⟩

/-- `^mut p^` with `p : ^i32 = ^mut x` hands out a `^mut i32` to data behind an immutable
pointer: the `^mut` call site has the same hole. -/
theorem mutref_counterexample_declared_type :
    let p := Expr.loc true (.ptr false .int) (.ref true xMut)
    mutRefRejected false (.deref p) = false ∧ verdict (.deref p) = .readonly :=
  ⟨rfl, rfl⟩

/-- false rejection: `f :: (a : [2]^mut i32) { a[0]^ = 5; }` is refused (`ImmutableParam`)
although the write goes through a `^mut` pointer and nothing else. -/
theorem complete_counterexample_param_array :
    let e := Expr.deref (.index (.param (.arr (.ptr true .int))))
    typeOf e = some .int ∧ (place e).surelyWritable = true ∧
    getMutability false e true false = .immutableParam true :=
  ⟨rfl, rfl, rfl⟩

/-- false rejection: `p := if c { ^mut x } else { ^mut y }; p^ = 5;` (`p : ^mut i32`) is
refused with `CannotMutateExpr` because the initialiser has no form the walk knows. -/
theorem complete_counterexample_opaque_initialiser :
    let e := Expr.deref (.loc true (.ptr true .int) (.other (.ptr true .int)))
    typeOf e = some .int ∧ (place e).surelyWritable = true ∧
    getMutability false e true false = .cannotMutateExpr :=
  ⟨rfl, rfl, rfl⟩

/-- the same inputs under the fix -/
theorem fixed_on_the_counterexamples :
    let p := Expr.loc true (.ptr false .int) (.ref true xMut)
    let ptrs := Expr.loc true (.arr (.ptr false .int)) (.arrayLit (.ptr false .int))
    getMutability true (.deref p) true false = .immutableRef ∧
    getMutability true (.deref (.call (.ptr false .int))) true false = .immutableRef ∧
    getMutability true (.deref (.index ptrs)) true false = .immutableRef ∧
    getMutability true (.deref (.index (.param (.arr (.ptr true .int))))) true false = .mutable :=
  ⟨rfl, rfl, rfl, rfl⟩

/-- `x := 1; p := ^mut x; pp :: ^mut p; pp^^ = 5` : well-typed, two hops, writable, accepted -/
example :
    let p := Expr.loc true (.ptr true .int) (.ref true xMut)
    let pp := Expr.loc false (.ptr true (.ptr true .int)) (.ref true p)
    typeOf (.deref (.deref pp)) = some .int ∧ place (.deref (.deref pp)) = ⟨.immLocal, [true, true]⟩ ∧
    verdict (.deref (.deref pp)) = .writable ∧
    getMutability true (.deref (.deref pp)) true false = .mutable :=
  ⟨rfl, rfl, rfl, rfl⟩

/-- `s :: S.{..}; s.a = 1` : well-typed, read-only, rejected with `ImmutableBinding` -/
example :
    let s := Expr.loc false (.struct 0) (.structLit (.struct 0))
    typeOf (.member s .int) = some .int ∧ verdict (.member s .int) = .readonly ∧
    getMutability true (.member s .int) true false = .immutableBinding :=
  ⟨rfl, rfl, rfl⟩

/-- auto-deref: `ps : ^mut S` parameter, `ps.a = 1` accepted; `ps : ^S`, rejected -/
example :
    getMutability true (.member (.param (.ptr true (.struct 0))) .int) true false = .mutable ∧
    getMutability true (.member (.param (.ptr false (.struct 0))) .int) true false = .immutableRef :=
  ⟨rfl, rfl⟩

end CapyV.C14
