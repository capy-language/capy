import CapyV.Proofs.CoreMem
/-!
# C01 — meta-theorems about the reference semantics `CapyCoreMem`

C01 itself is decided per program (translation validation: the built executable's output and
exit status against `CapyV.CoreMem.run`). There is no Lean model of Cranelift code generation as
a whole; the mechanisms that are modelled and proved are the other properties (C03 defers,
C08 numerics, C10 checks, C17 layout, C23 parsing …). What is proved here is that the
reference semantics itself has the shape the property describes: integer ranges, the exit status
rule, and — for the addressable store of `CapyCoreMem` — the store frame lemmas (a write through a
pointer changes exactly the cell pointed to: the reference-semantics side of property C02),
read-after-write through a pointer, by-value copies, the slice bounds check, and that a pointer
into a dead frame is `stuck`, never given a meaning. (`wrap` is `CapyCore`'s, which `CapyCoreMem`
uses.) The store and pointer theorems that other theorems here use, and the lemmas about the store
itself, are in `Proofs/CoreMem.lean`.
-/
namespace CapyV.C01
open CapyV.Core (wrap listSet)
open CapyV.CoreMem

/-- values of an integer type stay in the type's two's-complement range -/
theorem wrap_range (signed : Bool) (bits : Nat) (z : Int) :
    (signed = false → 0 ≤ wrap signed bits z ∧ wrap signed bits z < 2 ^ bits) ∧
    (signed = true → 0 < bits → -(2 ^ (bits - 1)) ≤ wrap signed bits z ∧ wrap signed bits z < 2 ^ (bits - 1)) := by
  have hpos : (0 : Int) < 2 ^ bits := Int.pow_pos (by decide)
  have h0 := Int.emod_nonneg z (Int.ne_of_gt hpos)
  have h1 := Int.emod_lt_of_pos z hpos
  constructor
  · intro hs
    subst hs
    simp [wrap]
    exact ⟨h0, h1⟩
  · intro hs hb
    subst hs
    have hhalf : (2 : Int) ^ bits = 2 * 2 ^ (bits - 1) := by
      rw [← Int.pow_succ', Nat.sub_add_cancel hb]
    simp only [wrap, Bool.true_and, decide_eq_true_eq]
    split <;> omega

/-- wrapping is the identity on values already in range (unsigned) -/
theorem wrap_unsigned_id (bits : Nat) (z : Int) (h0 : 0 ≤ z) (h1 : z < 2 ^ bits) :
    wrap false bits z = z := by
  simp [wrap, Int.emod_eq_of_lt h0 h1]

/-- wrap-around arithmetic: `+` is addition modulo `2^bits` -/
theorem add_is_modular (signed : Bool) (bits : Nat) (a b : Int) :
    ∃ k : Int, binInt .add (.int signed bits) a b = some (a + b + k * 2 ^ bits) :=
  (wrap_modular signed bits (a + b)).imp fun _ hk => congrArg some hk

/-- **exit status rule**: the status is main's integer result reduced to the low 8 bits of its
64-bit two's-complement pattern; 0 for anything that is not an integer (a `void` main). -/
theorem exit_status_rule (z : Int) :
    exitStatus (.int z) = (z % 2 ^ 64).toNat % 256 ∧ exitStatus .void = 0 := by
  simp [exitStatus, wrap]

theorem exit_status_lt (v : Val) : exitStatus v < 256 := by
  unfold exitStatus
  split
  · exact Nat.mod_lt _ (by decide)
  · decide

theorem listSet_length {α} (l : List α) (i : Nat) (v : α) : (listSet l i v).length = l.length := by
  rw [listSet_eq_set, List.length_set]

/-- **store frame lemma, same variable.** A store at access path `pre ++ i :: r` of a variable
leaves the sub-values at every diverging path `pre ++ j :: r'` (`j ≠ i`) of that variable as
they were: a write to one element / field does not touch its siblings, at any depth. -/
theorem store_frame_disjoint_path (st st' : St) (f x : Nat) (pre r r' : List Nat) (i j : Nat) (v : Val)
    (hij : j ≠ i) (h : storeCell st ⟨f, x, pre ++ i :: r⟩ v = some st') :
    loadCell st' ⟨f, x, pre ++ j :: r'⟩ = loadCell st ⟨f, x, pre ++ j :: r'⟩ := by
  obtain ⟨env, old, new, henv, hold, hnew, rfl⟩ := storeCell_eq_some h
  simp only [loadCell, frameEnv_withFrameEnv, henv, lookup_setVar, ↓reduceIte, Option.map_some, hold]
  exact getPath_setPath_disjoint pre old v new i j r r' hij hnew

/-- **by-value copies.** After `b := a`, a store into (any part of) `a` — directly or through a
pointer — does not change `b`. (`storeCell` is the only way the interpreter changes a variable.) -/
theorem copy_is_by_value (st st' : St) (a b : Nat) (path : List Nat) (v : Val) (hab : b ≠ a)
    (h : storeCell st ⟨st.fid, a, path⟩ v = some st') :
    loadCell st' ⟨st.fid, b, []⟩ = loadCell st ⟨st.fid, b, []⟩ :=
  store_frame_other_var st st' ⟨st.fid, a, path⟩ ⟨st.fid, b, []⟩ v h (Or.inr hab)

/-- `p^ = e; … p^` — the read that follows the write sees the written value, provided `p` still
holds the same pointer (it does unless `c` is `p`'s own cell) -/
theorem read_back_through_pointer (p : Program) (n m x : Nat) (e : Expr) (regs : List Stmt)
    (st st2 st3 : St) (c : Cell) (v : Val)
    (hx : lookup x st.env = some (.ptr c))
    (he : evalE p (n + 2) e st = .ok (v, st2))
    (hs : storeCell st2 c v = some st3)
    (hx3 : lookup x st3.env = some (.ptr c)) :
    execSCore p (n + 3) (.assign (.deref (.var x)) e) regs st = .ok (.normal, regs, st3) ∧
      evalE p (m + 2) (.deref (.var x)) st3 = .ok (v, st3) :=
  ⟨assign_through_pointer p n x e regs st st2 st3 c v hx he hs,
   deref_reads_cell p m x st3 c v hx3 (load_after_store st2 st3 c v hs)⟩

/-- **slice bounds check, reads**: an index `k ≥ len` into a slice faults with
`indexOutOfBounds`; the state is the one after evaluating the operands — nothing was accessed. -/
theorem slice_index_out_of_bounds (p : Program) (n : Nat) (a i : Expr) (st st1 st2 : St)
    (c : Cell) (len : Nat) (k : Int)
    (ha : evalE p n a st = .ok (.slice c len, st1))
    (hi : evalE p n i st1 = .ok (.int k, st2))
    (hk : (len : Int) ≤ k) :
    evalE p (n + 1) (.index a i) st = .error (.indexOutOfBounds, st2) := by
  have h0 : ¬ k < 0 := by omega
  have h1 : ¬ k.toNat < len := by omega
  simp only [evalE, ha, hi, h0, h1, ↓reduceIte]

/-- **slice bounds check, writes**: `s[i] = e` with `i ≥ s.len` faults with
`indexOutOfBounds` before `e` is evaluated and before anything is stored: the resulting state is
the one after evaluating the place's operands. -/
theorem slice_store_out_of_bounds (p : Program) (n : Nat) (q : Place) (i e : Expr) (regs : List Stmt)
    (st st1 st2 : St) (cs c : Cell) (len : Nat) (k : Int)
    (hq : resolve p n q st = .ok (cs, st1))
    (hi : evalE p n i st1 = .ok (.int k, st2))
    (hl : loadCell st2 cs = some (.slice c len))
    (hk : (len : Int) ≤ k) :
    execSCore p (n + 2) (.assign (.index q i) e) regs st = .error (.indexOutOfBounds, st2) := by
  have h0 : ¬ k < 0 := by omega
  have h1 : ¬ k.toNat < len := by omega
  simp only [execSCore, resolve, hq, hi, hl, indexCell, h0, h1, ↓reduceIte]

/-- an in-range index into a slice reads the element cell of the underlying array -/
theorem slice_index_in_bounds (p : Program) (n : Nat) (a i : Expr) (st st1 st2 : St)
    (c : Cell) (len : Nat) (k : Int) (v : Val)
    (ha : evalE p n a st = .ok (.slice c len, st1))
    (hi : evalE p n i st1 = .ok (.int k, st2))
    (h0 : 0 ≤ k) (hk : k < len)
    (hl : loadCell st2 (c.push k.toNat) = some v) :
    evalE p (n + 1) (.index a i) st = .ok (v, st2) := by
  have h0' : ¬ k < 0 := by omega
  have h1 : k.toNat < len := by omega
  simp only [evalE, ha, hi, h0', h1, hl, ↓reduceIte]

theorem deref_dead_frame_stuck (p : Program) (n x : Nat) (st : St) (c : Cell)
    (hx : lookup x st.env = some (.ptr c))
    (h1 : c.frame ≠ st.fid) (h2 : lookupFrame c.frame st.stack = none) :
    evalE p (n + 2) (.deref (.var x)) st
      = .error (.stuck "dereference of a pointer into a dead frame", st) := by
  simp only [evalE, hx, (dead_frame_no_access st c .void h1 h2).1]

/-- frame ids in use are below the counter: the invariant that makes every new frame id fresh.
It is shown for the three store operations below, not carried along `evalE`/`execS`/`run`. -/
def FramesWF (st : St) : Prop := st.fid < st.next ∧ ∀ g ∈ st.stack.map (·.1), g < st.next

theorem framesWF_init : FramesWF St.init := by
  refine ⟨by decide, ?_⟩
  intro g hg
  simp [St.init] at hg

/-- entering a function keeps the invariant, and the callee's frame id is none of the live ones:
an activation never shares cells with another one — in particular not with an outer activation
of the *same* function (recursion) -/
theorem framesWF_push (st : St) (env : Env) (h : FramesWF st) :
    FramesWF (pushFrame st env) ∧ (pushFrame st env).fid ≠ st.fid ∧
      (pushFrame st env).fid ∉ st.stack.map (·.1) := by
  obtain ⟨h1, h2⟩ := h
  refine ⟨⟨by simp [pushFrame], ?_⟩, ?_, ?_⟩
  · intro g hg
    simp only [pushFrame, List.map_cons, List.mem_cons] at hg ⊢
    cases hg with
    | inl h => omega
    | inr h => have := h2 g h; omega
  · simp only [pushFrame]
    omega
  · intro hmem
    have := h2 _ hmem
    simp only [pushFrame] at this
    omega

/-- a function's frame id is fresh, and it is dead once the function has returned: after
`pushFrame` … `popFrame` the callee's id is neither the running frame nor on the stack, provided
ids below `next` were the only ones in use -/
theorem callee_frame_dies (st : St) (env : Env)
    (hfid : st.fid < st.next) (hstk : ∀ g ∈ st.stack.map (·.1), g < st.next) :
    let callee := pushFrame st env
    let back := popFrame callee
    callee.fid ≠ back.fid ∧ lookupFrame callee.fid back.stack = none :=
  let ⟨_, hne, hmem⟩ := framesWF_push st env ⟨hfid, hstk⟩
  ⟨hne, lookupFrame_eq_none hmem⟩

theorem framesWF_pop (st : St) (h : FramesWF st) : FramesWF (popFrame st) := by
  obtain ⟨h1, h2⟩ := h
  unfold popFrame
  split
  · rename_i f e r hs
    rw [hs] at h2
    refine ⟨h2 f (by simp), ?_⟩
    intro g hg
    exact h2 g (by simp only [List.map_cons, List.mem_cons]; exact Or.inr hg)
  · exact ⟨h1, h2⟩

/-- a store keeps the invariant (it changes no frame id) -/
theorem framesWF_store (st st' : St) (c : Cell) (v : Val) (h : FramesWF st)
    (hs : storeCell st c v = some st') : FramesWF st' := by
  obtain ⟨_, hfid, hnext, hids⟩ := store_preserves_shape st st' c v hs
  obtain ⟨h1, h2⟩ := h
  refine ⟨by omega, ?_⟩
  rw [hids, hnext]
  exact h2

example : wrap false 8 300 = 44 := by decide
example : wrap true 8 (-129) = 127 := by decide

def exProg : Program :=
  { fns := [{ params := [], retTy := .int true 32,
              body := [.letS 1 (.lit (.int false 8) 200),
                       .print (.bin .add (.int false 8) (.var 1) (.lit (.int false 8) 100)),
                       .deferS (.print (.lit (.int true 32) 7)),
                       .ret (some (.lit (.int true 32) 300))] }] }

/-! non-vacuity: complete programs, evaluated by the kernel (`+kernel`: plain `decide` runs out of
heartbeats in `whnf` on `exMem` and `exRec`; kernel evaluation adds no axiom) -/

/-- `main`: `x := 5; a := [1,2,3]; p :: ^mut x; f1(p, ^mut a[1]); b := a; a[1] = 9; print x, a[1], b[1];
s : []i32 = a; print s.len; print s[5]` with `f1(p, q) { p^ = p^ + 1; q^ = 40; }` -/
def exMem : Program :=
  let i32 : Ty := .int true 32
  { fns := [
      { params := [], retTy := .void,
        body := [.letS 1 (.lit i32 5),
                 .letS 2 (.arrLit [.lit i32 1, .lit i32 2, .lit i32 3]),
                 .letS 3 (.addrOf (.var 1)),
                 .exprS (.call 1 [.var 3, .addrOf (.index (.var 2) (.lit i32 1))]),
                 .letS 4 (.var 2),
                 .assign (.index (.var 2) (.lit i32 1)) (.lit i32 9),
                 .print (.var 1),
                 .print (.index (.var 2) (.lit i32 1)),
                 .print (.index (.var 4) (.lit i32 1)),
                 .letS 5 (.sliceOf (.var 2)),
                 .print (.len (.var 5)),
                 .print (.index (.var 5) (.lit i32 5))] },
      { params := [10, 11], retTy := .void,
        body := [.assign (.deref (.var 10)) (.bin .add i32 (.deref (.var 10)) (.lit i32 1)),
                 .assign (.deref (.var 11)) (.lit i32 40)] } ] }

/-- the callee wrote the caller's `x` and `a[1]`; the copy `b` kept the value it was made from;
the slice has the array's length and its bounds check aborts the run -/
example : run exMem 40 = ⟨["6", "9", "40", "3"], "fault=index"⟩ := by decide +kernel

/-- a pointer that outlives its frame: `f1` returns `^local`; dereferencing it in `main` is stuck -/
def exDangling : Program :=
  let i32 : Ty := .int true 32
  { fns := [
      { params := [], retTy := .void, body := [.letS 1 (.call 1 []), .print (.deref (.var 1))] },
      { params := [], retTy := .ptr false i32, body := [.letS 2 (.lit i32 7), .ret (some (.addrOf (.var 2)))] } ] }

/-- recursion: `f1(n, p)` adds `n` to `p^`, keeps a local `x = n`, and calls itself with `n - 1`
and a pointer to *its own* `x`; after the inner call it prints `x` (changed by the inner
activation through the pointer) — each activation has its own `x` although the variable id is the same -/
def exRec : Program :=
  let u8 : Ty := .int false 8
  { fns := [
      { params := [], retTy := .void,
        body := [.letS 1 (.lit u8 100),
                 .exprS (.call 1 [.lit u8 2, .addrOf (.var 1)]),
                 .print (.var 1)] },
      { params := [10, 11], retTy := .void,
        body := [.opAssign .add u8 (.deref (.var 11)) (.var 10),
                 .letS 12 (.var 10),
                 .ifS (.cmp .gt u8 (.var 10) (.lit u8 0))
                   [.exprS (.call 1 [.bin .sub u8 (.var 10) (.lit u8 1), .addrOf (.var 12)])] [],
                 .print (.var 12)] } ] }

/-- innermost first: `x₀ = 0`; `x₁ = 1 + 0`; `x₂ = 2 + 1`; main's cell got `+ 2` only -/
example : run exRec 60 = ⟨["0", "1", "3", "102"], "exit=0"⟩ := by decide +kernel

example : run exDangling 40 = ⟨[], "stuck=dereference of a pointer into a dead frame"⟩ := by
  decide

end CapyV.C01
