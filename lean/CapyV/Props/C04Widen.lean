import CapyV.Proofs.Comptime
/-!
C04, globals annotated with a wider number type than their constant value: the program reads the
sign/zero-extension of what the block computed, whatever lies next to the global in memory; before
fix ad641e3 the value read depended on the neighbouring data.
-/
namespace CapyV.C04Widen
open CapyV.Comptime

/-- **Headline.** For every byte order, every pair of widths `f ≤ t` out of 8/16/32/64, either
signedness of the value and every raw value `v` the block produced: the bytes stored for the global
decode, by a `t`-bit load, to the two's-complement extension of `v` — independently of what follows
the global in memory. -/
theorem global_wider_int (e : Endian) (signed : Bool) (f t v : Nat) (neighbour : List Nat)
    (hf : f = 8 ∨ f = 16 ∨ f = 32 ∨ f = 64) (ht : t = 8 ∨ t = 16 ∨ t = 32 ∨ t = 64) (hft : f ≤ t) :
    loadBits e t (widenIntBytes e signed f t (encode e (f / 8) (v % 2 ^ f)) ++ neighbour)
      = extend signed f t v :=
  load_widen e signed v neighbour (eight_dvd_width hf) (eight_dvd_width ht) hft

/-- The extension is the mathematical value: an unsigned value is unchanged. -/
theorem extend_unsigned (f t v : Nat) : extend false f t v = v % 2 ^ f := by
  simp [extend]

/-- A negative signed value `v - 2^f` (raw pattern `v ≥ 2^(f-1)`) becomes `v - 2^f + 2^t`. -/
theorem extend_signed_negative (f t v : Nat) (hv : v < 2 ^ f) (hneg : 2 ^ (f - 1) ≤ v) :
    extend true f t v = v + (2 ^ t - 2 ^ f) := by
  simp [extend, Nat.mod_eq_of_lt hv, hneg]

/-- **Pre-fix counterexample** (`M : i64 : comptime { N }` with `N : i32 = -5`): the same global reads
as two different values depending on the four bytes that follow it. -/
theorem old_global_wider_reads_neighbour :
    loadBits .little 64 (storeOld (encode .little 4 (2 ^ 32 - 5)) [0, 0, 0, 0])
      ≠ loadBits .little 64 (storeOld (encode .little 4 (2 ^ 32 - 5)) [0x6e, 0x69, 0x61, 0x6d]) ∧
    loadBits .little 64 (storeOld (encode .little 4 (2 ^ 32 - 5)) [0, 0, 0, 0]) ≠ extend true 32 64 (2 ^ 32 - 5) := by
  decide

example : loadBits .little 64 (widenIntBytes .little true 32 64 (encode .little 4 (2 ^ 32 - 5)) ++ [1, 2, 3])
    = 2 ^ 64 - 5 := by decide
example : extend false 8 64 200 = 200 := by decide

end CapyV.C04Widen
