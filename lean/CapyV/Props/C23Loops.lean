import CapyV.Generated.ParserLoops
/-!
# C23 — termination obligations read off the grammar source

`Generated/ParserLoops.lean` is regenerated from `/repo/crates/parser/src/grammar*` on every
run: one row per `loop`/`while`. These theorems are re-checked against that table, so a
grammar loop that loses its progress guard, or a new unreviewed loop, breaks them.
-/
namespace CapyV.C23
open CapyV.ParserLoops

/-- Every loop of the grammar is a guarded list loop (which `guarded_loop_terminates` bounds),
a `while p.at(K) { … p.bump() … }` loop (consumes a token per iteration), or one of the
hand-reviewed loops listed in `tools/gen_parser_loops.py`. -/
theorem no_unknown_loop : loopSites.all (fun r => r.2.2.2 != LoopKind.unknown) = true := by decide

/-- The separator-driven list loops — the shape that could spin when the item's recovery set
contains the next token — carry the progress guard: here struct/enum members, struct and array
literals, switch arms, directive arguments, found by function name (each has one loop). -/
theorem list_loops_guarded :
    ["parse_struct_decl", "parse_struct_literal", "parse_enum_decl", "parse_array_literal",
     "parse_switch", "parse_directive"].all (fun fn =>
        loopSites.any fun r => r.2.1 == fn && r.2.2.2 == LoopKind.guarded) = true := by decide

/-- The list loops of call arguments (in `parse_post_operators`) and of lambda parameters (in
`parse_lambda`), each the second loop of its function, carry the progress guard. -/
theorem call_args_and_params_guarded :
    ("grammar/expr.rs", "parse_post_operators", 1, LoopKind.guarded) ∈ loopSites ∧
    ("grammar/expr.rs", "parse_lambda", 1, LoopKind.guarded) ∈ loopSites := by decide

/-- non-vacuity: the table is not empty and has the eight guarded sites -/
example : (loopSites.filter fun r => r.2.2.2 == LoopKind.guarded).length = 8 := by decide

end CapyV.C23
