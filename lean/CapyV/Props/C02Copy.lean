import CapyV.Proofs.CopyLang
/-!
C02, second half of the statement: *"Aggregates are copied on assignment and on argument passing,
so mutating one copy is never visible through another copy."*

Theorems about `CapyV.Copy.run`, the model every generated copy program is compared with.
-/
namespace CapyV.C02Copy
open CapyV.Copy

/-- **Frame**: a whole operation sequence changes only the variables it writes. -/
theorem runFrom_frame (ops : List Op) : ∀ {st st' : Store} {out : List Int},
    runFrom st ops = some (st', out) → ∀ y, (∀ op ∈ ops, writes op ≠ some y) → lookup y st' = lookup y st := by
  induction ops with
  | nil =>
    intro st st' out h y _
    cases h
    rfl
  | cons op rest ih =>
    intro st st' out h y hy
    simp only [runFrom] at h
    split at h
    · simp at h
    · rename_i s1 o1 hs
      split at h
      · simp at h
      · rename_i s2 o2 hr
        cases h
        rw [ih hr y (fun op hop => hy op (List.mem_cons_of_mem _ hop))]
        exact step_frame hs y (hy op (List.mem_cons_self))

/-- **Copy independence** (headline). A definition `dst <form> src`, in any of its syntactic forms,
gives `dst` the cells `src` holds at that moment; afterwards, whatever sequence of operations runs
— writes to the source variable, to any other variable, through pointers, aggregate assignments —
as long as none of them writes `dst` itself, `dst` still holds exactly those cells. -/
theorem copy_independent (form dst : Nat) (src : Place) (st st1 st2 : Store) (o1 out : List Int)
    (vs : List Int) (ops : List Op)
    (hsrc : readPlace st src = some vs)
    (hdef : step st (.defn form dst src) = some (st1, o1))
    (hrun : runFrom st1 ops = some (st2, out))
    (hnow : ∀ op ∈ ops, writes op ≠ some dst) :
    lookup dst st2 = some vs := by
  rw [runFrom_frame ops hrun dst hnow]
  simp only [step, hsrc] at hdef
  cases hdef
  exact lookup_update_same dst vs st

/-- the other direction: writing the copy (or anything else) never changes the source variable -/
theorem source_unaffected_by_copy_writes (form dst : Nat) (src : Place) (st st1 st2 : Store)
    (o1 out : List Int) (ops : List Op) (hne : dst ≠ src.var)
    (hdef : step st (.defn form dst src) = some (st1, o1))
    (hrun : runFrom st1 ops = some (st2, out))
    (hnow : ∀ op ∈ ops, writes op ≠ some src.var) :
    lookup src.var st2 = lookup src.var st := by
  rw [runFrom_frame ops hrun src.var hnow]
  exact step_frame hdef src.var (by simp [writes]; exact hne)

/-- the surface form of a definition does not matter -/
theorem form_irrelevant (f g dst : Nat) (src : Place) (st : Store) :
    step st (.defn f dst src) = step st (.defn g dst src) := rfl

/-- a scalar write changes exactly the cell it names -/
theorem set_cells {st st' : Store} {x off : Nat} {v : Int} {out : List Int}
    (h : step st (.set x off v) = some (st', out)) :
    ∃ cells, lookup x st = some cells ∧ off < cells.length ∧
      ∃ cells', lookup x st' = some cells' ∧ ∀ i, cells'[i]? = if i = off then some v else cells[i]? := by
  simp only [step, Option.map_eq_some_iff] at h
  obtain ⟨s1, hw, he⟩ := h
  cases he
  unfold writePlace at hw
  split at hw
  · simp at hw
  · rename_i cells hl
    split at hw
    · rename_i hlen
      cases hw
      simp at hlen
      exact ⟨cells, hl, by omega, _, lookup_update_same x _ st, splice_getElem? cells off v (by omega)⟩
    · simp at hw

/-- **A literal reads before it writes**: after `x = T.{ srcs }` the variable holds the values the
sources had BEFORE the assignment — also when they are cells of `x` itself (the swap
`p = P.{ x = p.y, y = p.x }`). -/
theorem lit_reads_before_writing (x : Nat) (srcs : List Src) (st st' : Store) (out : List Int)
    (h : step st (.lit x srcs) = some (st', out)) :
    ∃ vs, srcs.mapM (readSrc st) = some vs ∧ lookup x st' = some vs := by
  simp only [step] at h
  split at h
  · rename_i old vs hl hm
    split at h
    · cases h
      exact ⟨vs, hm, lookup_update_same x vs st⟩
    · simp at h
  · simp at h

/-- the swap: `p := P.{1, 2}; p = P.{ x = p.y, y = p.x }; print p.x, p.y` prints 2 1 (the pinned
compiler built the literal in place and printed 2 2) -/
example : run [.init 0 [1, 2], .lit 0 [.cell 0 1, .cell 0 0], .obs 0 0, .obs 0 1] = some [2, 1] := by decide

/-! ### non-vacuity: a concrete program (the shape of seeded change C02_1) -/

/-- `a := Pt.{1, 2}; snap :: a; a.x = 100; print snap.x; print a.x` -/
def snapshot : List Op :=
  [.init 0 [1, 2], .defn 1 1 ⟨0, 0, 2⟩, .set 0 0 100, .obs 1 0, .obs 0 0]

example : run snapshot = some [1, 100] := by decide

/-- a compiler that made `::` definitions alias their source would print `[100, 100]` here -/
example : run snapshot ≠ some [100, 100] := by decide

/-- nested: `w := W.{7, (1,2), 9}; c := w.p; w.p.y = 50; c.x = 60; print c.y, w.p.x, w.g, w.h` -/
example : run [.init 0 [7, 1, 2, 9], .defn 0 1 ⟨0, 1, 2⟩, .set 0 2 50, .set 1 0 60,
    .obs 1 1, .obs 0 1, .obs 0 0, .obs 0 3] = some [2, 1, 7, 9] := by decide

end CapyV.C02Copy
