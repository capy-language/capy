import CapyV.Proofs.SwitchDispatch
/-!
# C11 — switches are exhaustive, non-redundant, and dispatch on the runtime variant

Model: `CapyV/Model/Switch.lean` (`checkSwitch` = `infer_expr Expr::Switch` after `FIX.patch`,
`checkSwitchPinned` = the pinned code, `assignDiscriminants` = `Expr::EnumDecl`,
`compileSwitch`/`dispatch`/`binding` = codegen's `Expr::Switch`). The declarative rule of the
headline, `Accepts` with `names`, is defined in the same file, independently of the loops.

Well-formedness hypotheses used below (all hold for types the front end constructs):
* `variantTys scrut.absoluteTy = some vts` — the scrutinee is an enum, optional or error union,
  possibly behind `distinct` wrappers;
* `vts.Nodup` — the variant types are pairwise different (enum variants have unique uids, `T!T`
  is rejected at the declaration, `?nil` is excluded);
* for enums every variant is a `Ty::EnumVariant`.
-/
namespace CapyV.C11
open CapyV CapyV.Switch

/-- **Acceptance.** The check reports nothing (and does not panic) exactly when the arms name
only variants of the scrutinee's type, name each at most once, and either name all of them or
there is a default arm. -/
theorem accepted_iff (scrut : Ty) (vts : List Ty) (arms : List Arm) (dflt : Bool)
    (hsum : variantTys scrut.absoluteTy = some vts) (hnd : vts.Nodup)
    (hvar : isEnum scrut = true → ∀ v ∈ vts, (variantName? v).isSome) :
    checkSwitch scrut arms dflt = .diags [] ↔ Accepts (isEnum scrut) vts arms dflt := by
  obtain ⟨ds, h, hiff⟩ := check_spec scrut vts arms dflt hsum hnd hvar
  rw [h, ← hiff, Outcome.diags.injEq]

/-- The check never panics on a well-formed scrutinee (the pinned code does, see below). -/
theorem check_total (scrut : Ty) (vts : List Ty) (arms : List Arm) (dflt : Bool)
    (hsum : variantTys scrut.absoluteTy = some vts) (hnd : vts.Nodup)
    (hvar : isEnum scrut = true → ∀ v ∈ vts, (variantName? v).isSome) :
    checkSwitch scrut arms dflt ≠ .panic := by
  obtain ⟨ds, h, _⟩ := check_spec scrut vts arms dflt hsum hnd hvar
  rw [h]; nofun

/-- `D :: distinct ?i32; switch d { i32 => …, nil => … }`: the property says "accepted"
(`Accepts`), the pinned check reaches `unreachable!()` — the confirmed crash of DESIGN.md §6 #12
(`corpus/probes/C11_distinct_optional_switch_unreachable.capy`). The patched check accepts. -/
theorem pinned_distinct_counterexample :
    let scrut := Ty.distinct 3 (.optional (.iint 32))
    let arms := [Arm.qualified (.iint 32), Arm.qualified .nil]
    Accepts (isEnum scrut) [.iint 32, .nil] arms false ∧
      checkSwitchPinned scrut arms false = .panic ∧
      checkSwitch scrut arms false = .diags [] := by
  exact ⟨by decide, rfl, rfl⟩

/-- `N :: distinct nil; switch o { i32 => …, N => … }` on `o : ?i32`: `N` is not a variant
(the rule rejects), the pinned check panics, the patched check reports `NotAVariantOfSumType`. -/
theorem pinned_nil_like_arm_counterexample :
    let scrut := Ty.optional (.iint 32)
    let arms := [Arm.qualified (.iint 32), Arm.qualified (.distinct 4 .nil)]
    ¬ Accepts (isEnum scrut) [.iint 32, .nil] arms false ∧
      checkSwitchPinned scrut arms false = .panic ∧
      checkSwitch scrut arms false = .diags [.notAVariant (.distinct 4 .nil)] := by
  exact ⟨by decide, rfl, rfl⟩

/-- Shorthand arms on a distinct enum: the pinned check runs into
`let Ty::Enum{..} = *scrutinee_ty else { unreachable!() }`. -/
theorem pinned_distinct_enum_shorthand_counterexample :
    let e := Ty.enum 1 (.cons (.enumVariant 1 10 2 (.iint 32) 0) (.cons (.enumVariant 1 11 3 .void 1) .nil))
    let arms := [Arm.shorthand 10, Arm.shorthand 11]
    checkSwitchPinned (.distinct 7 e) arms false = .panic ∧
      checkSwitch (.distinct 7 e) arms false = .diags [] ∧
      checkSwitchPinned e arms false = .diags [] := by
  exact ⟨rfl, rfl, rfl⟩

/-- Where the scrutinee is an enum / optional / error union *itself* (no wrapper) and no
fully-qualified arm is a nil-like type other than `nil`, the pinned check and the patched check
are the same function: `FIX.patch` changes nothing else. -/
theorem pinned_eq_fixed (scrut : Ty) (vts : List Ty) (arms : List Arm) (dflt : Bool)
    (hhead : variantTys scrut = some vts)
    (hnil : ∀ ty, Arm.qualified ty ∈ arms → ty.isNil = true → ty = .nil) :
    checkSwitchPinned scrut arms dflt = checkSwitch scrut arms dflt := by
  unfold checkSwitchPinned checkSwitch
  rw [absoluteTy_of_variantTys hhead, resolveArmsPinned_eq scrut vts arms hhead hnil, hhead]

/-- If the declaration reports no `DiscriminantUsedAlready`, the variants get pairwise different
discriminants, one per variant. -/
theorem discriminants_injective (manual : List (Option Nat))
    (h : (assignDiscriminants manual).1 = []) :
    (assignDiscriminants manual).2.Nodup ∧ (assignDiscriminants manual).2.length = manual.length :=
  -- h is not needed (Switch.discriminants_nodup); named so that the binder counts as used
  have _ := h
  discriminants_nodup manual

/-- Manual discriminants are honoured as written. -/
theorem manual_discriminants_kept (manual : List (Option Nat))
    (h : (assignDiscriminants manual).1 = []) (i d : Nat) (hi : manual[i]? = some (some d)) :
    (assignDiscriminants manual).2[i]? = some d :=
  assignPass_manual _ d _ 0 i ((manualPass_kept manual [] h).symm ▸ hi)

/-- Non-vacuity + the shape of the result: `enum { A | 7, B, C | 0, D }` ↦ 7, 8, 0, 9;
a repeated manual value is reported and then treated as automatic. -/
example : assignDiscriminants [some 7, none, some 0, none] = ([], [7, 8, 0, 9]) := rfl
example : assignDiscriminants [some 3, some 3, none] = ([3], [3, 4, 5]) := rfl
example : assignDiscriminants [none, some 1, none, some 0] = ([], [2, 1, 3, 0]) := rfl

/-- The declaration check does **not** keep automatic discriminants inside the tag byte:
`enum { A | 255, B }` is accepted with `B = 256` (confirmed: Cranelift then panics,
known finding `auto-discriminant-exceeds-u8`). -/
theorem auto_discriminant_exceeds_u8_counterexample :
    assignDiscriminants [some 255, none] = ([], [255, 256]) := rfl

/-- An accepted switch over a tagged union whose variants have pairwise different discriminants
below 256 (enums: `discriminants_injective`; optionals and error unions: 0/1) compiles, and a
value whose current variant is `v` (tag byte = discriminant of `v`) runs exactly the arm naming
`v`; if no arm names `v` it runs the default arm — never the trap, never another arm. -/
theorem dispatch_selects_current_variant (scrut : Ty) (vts : List Ty) (arms : List Arm) (dflt : Bool)
    (hsum : variantTys scrut.absoluteTy = some vts) (hnd : vts.Nodup)
    (hvar : isEnum scrut = true → ∀ v ∈ vts, (variantName? v).isSome)
    (htag : scrut.isTaggedUnion = true)
    (hacc : checkSwitch scrut arms dflt = .diags [])
    (dOf : Ty → Nat)
    (hd : ∀ v ∈ vts, taggedUnionDiscrim scrut v = some (some (dOf v)))
    (hinj : ∀ v ∈ vts, ∀ w ∈ vts, dOf v = dOf w → v = w)
    (hlt : ∀ v ∈ vts, dOf v < 256)
    (v : Ty) (hv : v ∈ vts) :
    ∃ c t, compileSwitch true scrut arms dflt = some c ∧
      reprDiscr scrut v = some (.tag (dOf v)) ∧ dispatch c (.tag (dOf v)) = some t ∧
      ((∃ i a, arms[i]? = some a ∧ names (isEnum scrut) vts a = some v ∧ t = .arm i) ∨
       ((∀ a ∈ arms, names (isEnum scrut) vts a ≠ some v) ∧ dflt = true ∧ t = .default)) := by
  obtain ⟨hall, hnames_nd, hcover⟩ := (accepted_iff scrut vts arms dflt hsum hnd hvar).1 hacc
  have hkey := fun a ha => armDiscr_of_isSome dOf (hall a ha)
  -- only the arms naming `v` have key `dOf v`
  have hkv : ∀ a ∈ arms, armDiscr (isEnum scrut) vts dOf a = dOf v ↔
      names (isEnum scrut) vts a = some v := fun a ha => by
    obtain ⟨w, hw, hn, hk⟩ := hkey a ha
    rw [hk, hn, Option.some.injEq]
    exact ⟨hinj w hw v hv, fun e => e ▸ rfl⟩
  let es := (arms.map (armDiscr (isEnum scrut) vts dOf)).zipIdx 0
  have hes : ∀ d j, (d, j) ∈ es ↔ ∃ a, arms[j]? = some a ∧ armDiscr (isEnum scrut) vts dOf a = d := by
    simp [es, List.mk_mem_zipIdx_iff_getElem?]
  have hcomp : compileSwitch true scrut arms dflt = some (.table es dflt) :=
    compileSwitch_table scrut vts arms dflt dOf hsum htag hd hinj hlt hall hnames_nd
  have hrepr : reprDiscr scrut v = some (.tag (dOf v)) := by
    simp only [reprDiscr, htag, if_true, hd v hv, Nat.mod_eq_of_lt (hlt v hv)]
  refine ⟨.table es dflt, ?_⟩
  cases hf : es.find? (fun e => e.1 == dOf v) with
  | some p =>
    obtain ⟨d, j⟩ := p
    obtain ⟨a, ha, rfl⟩ := (hes d j).1 (List.mem_of_find?_eq_some hf)
    have hn := (hkv a (List.mem_of_getElem? ha)).1 (by simpa using List.find?_some hf)
    exact ⟨.arm j, hcomp, hrepr, by simp [dispatch, hf], .inl ⟨j, a, ha, hn, rfl⟩⟩
  | none =>
    have hno : ∀ a ∈ arms, names (isEnum scrut) vts a ≠ some v := fun a ha hn => by
      obtain ⟨j, hj⟩ := List.mem_iff_getElem?.1 ha
      exact List.find?_eq_none.1 hf _ ((hes _ j).2 ⟨a, hj, rfl⟩) (by simpa using (hkv a ha).2 hn)
    have hdflt : dflt = true := hcover.resolve_right fun h => by
      obtain ⟨a, ha, hav⟩ := List.mem_map.1 (h v hv)
      exact hno a ha hav
    exact ⟨.default, hcomp, hrepr, by simp [dispatch, hf, hdflt], .inr ⟨hno, hdflt, rfl⟩⟩

/-- The arm that runs is unique: an accepted switch has at most one arm per variant. -/
theorem arm_for_variant_unique (scrut : Ty) (vts : List Ty) (arms : List Arm) (dflt : Bool)
    (hsum : variantTys scrut.absoluteTy = some vts) (hnd : vts.Nodup)
    (hvar : isEnum scrut = true → ∀ v ∈ vts, (variantName? v).isSome)
    (hacc : checkSwitch scrut arms dflt = .diags [])
    (v : Ty) (i j : Nat) (a b : Arm) (hi : arms[i]? = some a) (hj : arms[j]? = some b)
    (ha : names (isEnum scrut) vts a = some v) (hb : names (isEnum scrut) vts b = some v) : i = j := by
  obtain ⟨_, hnames_nd, _⟩ := (accepted_iff scrut vts arms dflt hsum hnd hvar).1 hacc
  have h1 : (arms.map (names (isEnum scrut) vts))[i]? = some (some v) := by
    rw [List.getElem?_map, hi]; simp [ha]
  have h2 : (arms.map (names (isEnum scrut) vts))[j]? = some (some v) := by
    rw [List.getElem?_map, hj]; simp [hb]
  obtain ⟨hlen, _⟩ := List.getElem?_eq_some_iff.1 h1
  exact (List.getElem?_inj hlen hnames_nd).1 (h1.trans h2.symm)

/-- Inside the arm naming variant `v` the switch argument is the payload stored in the sum value,
typed as `v` (for an enum: the variant type, whose layout is its payload's, C17
`variant_same_layout`); inside the default arm it is the whole scrutinee value with the
scrutinee's type (distinct wrappers included). -/
theorem payload_binding_exact (scrut : Ty) (vts : List Ty) (arms : List Arm)
    (hsum : variantTys scrut.absoluteTy = some vts) :
    (∀ i a v, arms[i]? = some a → names (isEnum scrut) vts a = some v →
      binding true scrut arms (.arm i) = some (.payload v)) ∧
    binding true scrut arms .default = some (.whole scrut) := by
  refine ⟨?_, rfl⟩
  intro i a v hi hn
  simp only [binding, hi, armTy_eq_names scrut vts a v hsum hn, Option.map_some]

/-- Optionals (tagged) and error unions satisfy the discriminant hypotheses of
`dispatch_selects_current_variant` with `nil ↦ 0, payload ↦ 1` / `error ↦ 0, payload ↦ 1`. -/
theorem optional_discriminants (sub : Ty) (hz : sub.isNonZero = false) (hn : sub ≠ .nil) :
    taggedUnionDiscrim (.optional sub) .nil = some (some 0) ∧
    taggedUnionDiscrim (.optional sub) sub = some (some 1) := by
  simp [taggedUnionDiscrim, Ty.absoluteTy, hz, hn]

theorem error_union_discriminants (e p : Ty) (hne : e ≠ p) :
    taggedUnionDiscrim (.errorUnion e p) e = some (some 0) ∧
    taggedUnionDiscrim (.errorUnion e p) p = some (some 1) := by
  simp [taggedUnionDiscrim, Ty.absoluteTy, Ne.symm hne]

theorem enum_discriminants (uid n u d : Nat) (vs : Tys) (sub : Ty) :
    taggedUnionDiscrim (.enum uid vs) (.enumVariant uid n u sub d) = some (some d) := by
  simp [taggedUnionDiscrim, Ty.absoluteTy]

/-- The `< 256` hypothesis is necessary and not guaranteed by the declaration check:
`E :: enum { A | 255, B }` (discriminants 255, 256) is accepted by the switch check, and the
compiled switch does not exist (Cranelift: "The index type i8 does not fit the maximum switch
entry of 256") — known finding `auto-discriminant-exceeds-u8`. -/
theorem dispatch_needs_u8_discriminants_counterexample :
    let e := Ty.enum 1 (.cons (.enumVariant 1 10 2 .void 255) (.cons (.enumVariant 1 11 3 (.iint 32) 256) .nil))
    let arms := [Arm.shorthand 10, Arm.shorthand 11]
    checkSwitch e arms false = .diags [] ∧ compileSwitch true e arms false = none := by
  exact ⟨rfl, rfl⟩

/-- Non-vacuity of `dispatch_selects_current_variant`, on a distinct enum with a manual
discriminant, one shorthand arm, one fully-qualified arm and a default arm:
variant `A` (tag 7) runs arm 1, `B` (tag 8) runs arm 0, `C` (tag 0) runs the default arm. -/
example :
    let a := Ty.enumVariant 1 10 2 (.iint 32) 7
    let b := Ty.enumVariant 1 11 3 .void 8
    let c := Ty.enumVariant 1 12 4 .string 0
    let e := Ty.distinct 9 (.enum 1 (.cons a (.cons b (.cons c .nil))))
    let arms := [Arm.shorthand 11, Arm.qualified a]
    checkSwitch e arms true = .diags [] ∧
    (compileSwitch true e arms true).bind (dispatch · (.tag 7)) = some (.arm 1) ∧
    (compileSwitch true e arms true).bind (dispatch · (.tag 8)) = some (.arm 0) ∧
    (compileSwitch true e arms true).bind (dispatch · (.tag 0)) = some .default ∧
    binding true e arms (.arm 1) = some (.payload a) ∧
    binding true e arms .default = some (.whole e) := by
  exact ⟨rfl, rfl, rfl, rfl, rfl, rfl⟩

/-- Nullable-pointer optionals (`?^T`, no tag): the patched code generator sends a non-null
pointer to the arm naming `^T`, a null pointer to the arm naming `nil`, and either to the default
arm when it has no arm of its own; the pinned code panics as soon as there is a default arm
(finding `nullable-pointer-switch-default-arm`, repaired by fix 747637a). Checked here on the arm
lists the end-to-end corpus runs; the general statement for `?^T` is covered by the
correspondence only (exhaustive over all arm lists of length ≤ 3). -/
example :
    let p := Ty.pointer false (.iint 32)
    let o := Ty.optional p
    (compileSwitch true o [.qualified .nil, .qualified p] false).bind (dispatch · (.ptr true)) = some (.arm 1) ∧
    (compileSwitch true o [.qualified .nil, .qualified p] false).bind (dispatch · (.ptr false)) = some (.arm 0) ∧
    (compileSwitch true o [.qualified .nil] true).bind (dispatch · (.ptr true)) = some .default ∧
    (compileSwitch true o [.qualified .nil] true).bind (dispatch · (.ptr false)) = some (.arm 0) ∧
    (compileSwitch true o [] true).bind (dispatch · (.ptr false)) = some .default ∧
    compileSwitch false o [.qualified .nil] true = none ∧
    reprDiscr o p = some (.ptr true) ∧ reprDiscr o .nil = some (.ptr false) := by
  exact ⟨rfl, rfl, rfl, rfl, rfl, rfl, rfl, rfl⟩

end CapyV.C11
