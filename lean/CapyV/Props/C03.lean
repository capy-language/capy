import CapyV.Proofs.Defer
import CapyV.Proofs.Defer.Old
/-!
# C03 — each executed defer runs exactly once, in LIFO order, on every exit path

`runCompiled` is what the code generated by the (fixed) defer scheme of
`crates/codegen/src/compiler/functions.rs` prints (`CapyV.Model.Defer`); `runSpec` is the
structural semantics the property demands (`CapyV.Spec.Defer`): leaving a block activation — by
falling off its end, `break`, `continue`, `return` or `.try` — runs the deferred bodies
registered in it so far, newest first, inner activations before outer ones, and nothing else.
A deferred expression is an arbitrary block (`Stmt.defer body`): events, nested blocks, loops,
`if`s, nested `defer`s and jumps that stay inside it; the compiler re-compiles it at every
emission site under the defer stack current there, the specification runs it as one block
activation. Every run-time condition is a decision drawn from `oracle`, so the statements hold
on every path; `fuel` bounds the iterations of one loop execution in both semantics, and a loop
cut off by it ends `normal` in both, so the statements also cover cut-off runs.

`wellScoped body [(0, false)]` is what HIR label resolution guarantees (every `brk l`/`tryS l`
inside a construct labelled `l`; the innermost construct labelled `l` around a `cont l` is a
loop; label resolution never crosses a `defer` boundary; the function body is the block
labelled `0`). The proof only uses "deferred bodies are closed" and the `cont` half
(`contScoped`), see `gen_trace_eq_spec_weak`, `cont_scoping_needed`, `defer_scoping_needed`.

`Stmt.loopC l cond body` is `l: while { cond; <decision> } { body }`, a loop whose condition
is a block with statements, defers and jumps of its own (`Expr::While` pushes the loop's defer
frame before it compiles the condition, fix 2c2d7e7); all theorems below quantify over programs
that may contain it, and `break_in_condition_*`, `condBreak`, `condCont`, `condOuter`,
`mid_break_in_condition_wrong` are about it.

The atomic model (`defer c` prints one event) is the special case
`Stmt.deferP c = defer { print c }`: `gen_trace_eq_spec` instantiates to it.
-/
namespace CapyV.C03
open CapyV CapyV.Defer

/-! `probe` is `corpus/probes/C03_defer_break_continue.capy`:
```
defer 1; while ? { defer 2; if ? { break }; print 3 } print 4;
         while ? { defer 5; if ? { continue }; print 6 } print 7
```
Decisions are consumed in execution order (loop condition, then the `if`). -/
def probe : Stmts :=
  .cons (.deferP 1)
  (.cons (.loop 10 (.cons (.deferP 2) (.cons (.ifS (.cons (.brk 10) .nil)) (.cons (.print 3) .nil))))
  (.cons (.print 4)
  (.cons (.loop 11 (.cons (.deferP 5) (.cons (.ifS (.cons (.cont 11) .nil)) (.cons (.print 6) .nil))))
  (.cons (.print 7) .nil))))

/-- one full iteration, then `break`; one full iteration, then `continue`, then the condition fails -/
def oracleA : List Bool := [true, false, true, true, true, false, true, true, false]

/-- `return` (= `brk 0`) from inside a loop nested in a labelled block with its own defer, and
`.try` propagation: `defer 1; block 7: { defer 2; while ? { defer 3; try→7; if ? { return } } print 4 } print 5` -/
def nested : Stmts :=
  .cons (.deferP 1)
  (.cons (.block (some 7) (.cons (.deferP 2)
    (.cons (.loop 8 (.cons (.deferP 3) (.cons (.tryS 7) (.cons (.ifS (.cons (.brk 0) .nil)) .nil))))
    (.cons (.print 4) .nil))))
  (.cons (.print 5) .nil))

/-- `loop 5 { defer 2; block 5: { defer 1; cont 5 } }` -/
def contThroughBlock : Stmts :=
  .cons (.loop 5 (.cons (.deferP 2)
    (.cons (.block (some 5) (.cons (.deferP 1) (.cons (.cont 5) .nil))) .nil))) .nil

/-- a deferred body with a loop, a conditional `continue` and a nested defer, registered after
an earlier defer of the same frame and left via `return`:
`defer {print 1}; defer { loop 5 { defer {print 2}; if ? { cont 5 }; print 3 }; print 4 }; if ? { return }; print 6` -/
def deferLoop : Stmts :=
  .cons (.deferP 1)
  (.cons (.defer (.cons (.loop 5 (.cons (.deferP 2) (.cons (.ifS (.cons (.cont 5) .nil))
      (.cons (.print 3) .nil)))) (.cons (.print 4) .nil)))
  (.cons (.ifS (.cons (.brk 0) .nil)) (.cons (.print 6) .nil)))

/-- the program of the seeded change C03_1:
`defer {print 1}; defer { loop 5 { if ? { brk 5 } }; print 2 }; if ? { print 3; return }; print 4` -/
def seededC03_1 : Stmts :=
  .cons (.deferP 1)
  (.cons (.defer (.cons (.loop 5 (.cons (.ifS (.cons (.brk 5) .nil)) .nil)) (.cons (.print 2) .nil)))
  (.cons (.ifS (.cons (.print 3) (.cons (.brk 0) .nil))) (.cons (.print 4) .nil)))

/-- a deferred body that jumps out of itself: `defer { return }; return` -/
def deferEscapes : Stmts :=
  .cons (.defer (.cons (.brk 0) .nil)) (.cons (.brk 0) .nil)

/-- a `break` in a block condition:
`defer 1; 9: while { defer 3; if ? { break 9 }; ? } { defer 2; print 4 }; print 5`.
Decisions per iteration: the `if` in the condition, then (if it was not taken) the condition's
tail expression. -/
def condBreak : Stmts :=
  .cons (.deferP 1)
  (.cons (.loopC 9 (.cons (.deferP 3) (.cons (.ifS (.cons (.brk 9) .nil)) .nil))
      (.cons (.deferP 2) (.cons (.print 4) .nil)))
  (.cons (.print 5) .nil))

/-- a `continue` in a block condition (re-evaluates the condition):
`defer 1; 9: while { defer 3; print 6; if ? { continue 9 }; ? } { defer 2; print 4 }; print 5` -/
def condCont : Stmts :=
  .cons (.deferP 1)
  (.cons (.loopC 9 (.cons (.deferP 3) (.cons (.print 6) (.cons (.ifS (.cons (.cont 9) .nil)) .nil)))
      (.cons (.deferP 2) (.cons (.print 4) .nil)))
  (.cons (.print 5) .nil))

/-- jumps from a block condition to labels further out (`break 7`, `return`), through the
loop's frame:
`defer 1; 7: { defer 2; 9: while { defer 3; try→7; if ? { return }; ? } { print 4 }; print 5 }; print 6` -/
def condOuter : Stmts :=
  .cons (.deferP 1)
  (.cons (.block (some 7) (.cons (.deferP 2)
    (.cons (.loopC 9 (.cons (.deferP 3) (.cons (.tryS 7) (.cons (.ifS (.cons (.brk 0) .nil)) .nil)))
        (.cons (.print 4) .nil))
    (.cons (.print 5) .nil))))
  (.cons (.print 6) .nil))

/-- The compiler neither hits `expect("block didn't add to defer stack")` /
`expect("we just pushed this")` nor re-enters `run_defers_up_to` without end: every deferred
body is compiled while compiling at most `deferDepth body` enclosing deferred bodies. The
hypothesis is needed (`defer_scoping_needed`). -/
theorem compile_total (body : Stmts) (h : wellScoped body [(0, false)] = true) :
    (compileProgram body).isSome = true :=
  compileProgram_isSome body (wellScoped_contScoped body _ h)

/-- HEADLINE. On every path the generated code prints exactly what the structural semantics
prescribes. -/
theorem gen_trace_eq_spec (fuel : Nat) (body : Stmts) (oracle : List Bool)
    (h : wellScoped body [(0, false)] = true) :
    runCompiled fuel body oracle = some (runSpec fuel body oracle) :=
  runCompiled_eq_runSpec fuel body oracle (wellScoped_contScoped body _ h)

/-- The same (including totality of compilation) under the weakest scoping hypothesis the proof
needs: every deferred body is closed (`wellScoped` on its own) and, outside deferred bodies, no
`cont l` has a plain block as its innermost enclosing construct labelled `l` (`brk`/`tryS`
outside deferred bodies may even be unresolved). -/
theorem gen_trace_eq_spec_weak (fuel : Nat) (body : Stmts) (oracle : List Bool)
    (h : contScoped body [(0, false)] = true) :
    runCompiled fuel body oracle = some (runSpec fuel body oracle) :=
  runCompiled_eq_runSpec fuel body oracle h

/-- The `cont` half of `contScoped` cannot be dropped: a `continue` whose label is
shadowed by a block (never produced by the front end, label ids are unique) would unwind only
to the block. -/
theorem cont_scoping_needed :
    contScoped contThroughBlock [(0, false)] = false ∧
    runCompiled 2 contThroughBlock [true] = some [1] ∧ runSpec 2 contThroughBlock [true] = [1, 2] :=
  ⟨by decide, by decide, by
    simp [runSpec, execS, execStmtsS, execBlockS, runRegs, iter, St.decide, St.emit, Stmt.deferP, contThroughBlock]⟩

/-- "Deferred bodies are closed" cannot be dropped: for a deferred body that jumps out of itself
(HIR rejects it: label resolution stops at `ScopeKind::Defer`) the real compiler re-enters
`run_defers_up_to` for ever — the frame being unwound is still on the stack — and the model
returns `none` whatever the re-entry budget. -/
theorem defer_scoping_needed :
    wellScoped deferEscapes [(0, false)] = false ∧ contScoped deferEscapes [(0, false)] = false ∧
    compileProgram deferEscapes = none ∧ (∀ fuel oracle, runCompiled fuel deferEscapes oracle = none) ∧
    (∀ n fr, compileDeferred n (.cons (.brk 0) .nil) ((some 0, [.cons (.brk 0) .nil]) :: fr) = none) := by
  refine ⟨by decide, by decide, by decide, fun fuel oracle => ?_, ?_⟩
  · have h : compileProgram deferEscapes = none := by decide
    simp [runCompiled, h]
  · intro n
    induction n with
    | zero =>
      intro fr
      rfl
    | succ n ih =>
      intro fr
      simp [compileDeferred, compileStmts, compileStmt, defersUpTo, emitDefers, closeBlock, ih]

/-- LIFO on fall-through: a block whose statement list registers the deferred bodies
`b₁ … bₙ` (its own `defer`s, in program order) and runs to its end runs, after its body,
`bₙ … b₁`, each once, as block activations (`runner`). -/
theorem defers_lifo_on_fallthrough (fuel : Nat) (label : Option Nat) (body : Stmts)
    (regs : List Reg) (st : St) (h : (execStmtsS fuel body [] st).1 = .normal) :
    (execS fuel (.block label body) regs st).1 = .normal ∧
    (execS fuel (.block label body) regs st).2.2 =
      runRegs ((registeredBodies body).reverse.map (runner fuel)) (execStmtsS fuel body [] st).2.2 := by
  rw [execS_block, execBlockS_eq, h, execStmtsS_regs fuel body [] st h, List.append_nil]
  exact ⟨rfl, rfl⟩

/-- LIFO on fall-through, atomic model: a block whose own defers are
`defer { print c₁ } … defer { print cₙ }` prints, after its body's events, `cₙ … c₁`. -/
theorem defers_lifo_on_fallthrough_atomic (fuel : Nat) (label : Option Nat) (body : Stmts)
    (regs : List Reg) (st : St) (cs : List Nat)
    (hcs : registeredBodies body = cs.map fun c => .cons (.print c) .nil)
    (h : (execStmtsS fuel body [] st).1 = .normal) :
    (execS fuel (.block label body) regs st).1 = .normal ∧
    (execS fuel (.block label body) regs st).2.2.trace.reverse =
      (execStmtsS fuel body [] st).2.2.trace.reverse ++ cs.reverse := by
  obtain ⟨h1, h2⟩ := defers_lifo_on_fallthrough fuel label body regs st h
  refine ⟨h1, ?_⟩
  rw [h2, hcs, ← List.map_reverse, List.map_map]
  have := runRegs_prints fuel cs.reverse (execStmtsS fuel body [] st).2.2
  simp only [Function.comp_def] at this ⊢
  rw [this, St.emits_trace]
  simp

/-- A defer that was not reached does not run: the generated code of a body with a `brk`
before a `defer { b }` (and anything else after it) prints what the body cut off at the `brk`
means — `b` is neither registered nor run. -/
theorem unreached_defer_does_not_run (fuel l : Nat) (b pre post : Stmts) (oracle : List Bool)
    (h : wellScoped (pre.append (.cons (.brk l) (.cons (.defer b) post))) [(0, false)] = true) :
    runCompiled fuel (pre.append (.cons (.brk l) (.cons (.defer b) post))) oracle =
      some (runSpec fuel (pre.append (.cons (.brk l) .nil)) oracle) := by
  rw [gen_trace_eq_spec fuel _ oracle h]
  simp only [runSpec, execS, execBlockS_eq, execStmtsS_dead fuel (.brk l) (.inl ⟨l, rfl⟩)]

/-- `continue` runs the loop body's defers: `loop l { defer { print c }; print p; cont l; … }`
prints `p c` once per iteration (here `k` iterations: `k` positive decisions, then the oracle
is exhausted and the condition fails). -/
theorem continue_runs_body_defers (fuel l c p k : Nat) (dead : Stmts) (hk : k < fuel) :
    runSpec fuel (.cons (.loop l (.cons (.deferP c) (.cons (.print p) (.cons (.cont l) dead)))) .nil)
      (List.replicate k true) = (List.replicate k [p, c]).flatten := by
  have := iter_defer_cont fuel l c p dead k fuel { trace := [], oracle := List.replicate k true } hk rfl
  simp only [runSpec, execS_loop, execS, execBlockS_eq, execStmtsS, this, keep]
  simp [List.reverse_flatten]

/-- The generated code runs the loop body's defers on `continue`. -/
theorem continue_runs_body_defers_compiled (fuel l c p k : Nat) (hk : k < fuel) :
    runCompiled fuel (.cons (.loop l (.cons (.deferP c) (.cons (.print p) (.cons (.cont l) .nil)))) .nil)
      (List.replicate k true) = some (List.replicate k [p, c]).flatten := by
  rw [gen_trace_eq_spec, continue_runs_body_defers fuel l c p k .nil hk]
  simp [wellScoped, wellScopedStmt, lookupLabel, Stmt.deferP]

/-- A `break l` in the condition of `l: while { pre; break l; … } { body }`, reached after the
condition's statements `pre` ran to their end: the loop is left normally; exactly the deferred
bodies the condition block registered so far (`pre`'s own `defer`s) have run, newest first, each
once (`runner`); nothing of the enclosing activations runs — the enclosing block's registrations
`regs` are handed back untouched, to be run when THAT block is left — and neither the decision
nor the body is evaluated. -/
theorem break_in_condition_runs_condition_defers (fuel l : Nat) (pre post body : Stmts)
    (regs : List Reg) (st : St) (hf : 0 < fuel) (h : (execStmtsS fuel pre [] st).1 = .normal) :
    execS fuel (.loopC l (pre.append (.cons (.brk l) post)) body) regs st =
      (.normal, regs,
        runRegs ((registeredBodies pre).reverse.map (runner fuel)) (execStmtsS fuel pre [] st).2.2) := by
  obtain ⟨n, rfl⟩ : ∃ n, fuel = n + 1 := ⟨fuel - 1, by omega⟩
  have hr := execStmtsS_regs (n + 1) pre [] st h
  have ha := execStmtsS_append (n + 1) pre (.cons (.brk l) post) [] st h
  rw [execS_loopC]
  simp only [iter, loopStep, condS, ha, execStmtsS, execS, hr, loopNext, if_true, List.append_nil, keep]

/-- In the generated code of
`defer a; l: while { defer c; break l } { body }; print p` the `break` runs `c` only; `a` runs
once, when the function body is left. (Before fix 2c2d7e7: `mid_break_in_condition_wrong`.) -/
theorem break_in_condition_compiled (fuel l a c p : Nat) (body : Stmts) (oracle : List Bool)
    (hf : 0 < fuel) (hb : wellScoped body [(l, true), (0, false)] = true) :
    runCompiled fuel
      (.cons (.deferP a) (.cons (.loopC l (.cons (.deferP c) (.cons (.brk l) .nil)) body)
        (.cons (.print p) .nil))) oracle = some [c, p, a] := by
  rw [gen_trace_eq_spec]
  · have key : ∀ regs st, execS fuel (.loopC l (.cons (.deferP c) (.cons (.brk l) .nil)) body) regs st =
        (.normal, regs, st.emit c) := by
      intro regs st
      have h := break_in_condition_runs_condition_defers fuel l (.cons (.deferP c) .nil) .nil body
        regs st hf (by simp [execStmtsS, execS, Stmt.deferP])
      simp only [Stmts.append] at h
      rw [h]
      simp [registeredBodies, Stmt.deferP, execStmtsS, execS, runner_print]
    generalize Stmt.loopC l _ body = L at key
    simp [runSpec, execS, execBlockS_eq, execStmtsS, Stmt.deferP, key, St.emit]
  · simp [wellScoped, wellScopedStmt, lookupLabel, Stmt.deferP, hb]

/-! HIR accepts the example programs (all but `contThroughBlock` and `deferEscapes`). `execS` is
defined by well-founded recursion and does not evaluate, so the examples below evaluate
`runCompiled` and read `runSpec` off it (`both_of_compiled`, `runSpec_of_compiled`). -/
example : wellScoped probe [(0, false)] = true := by decide
example : runSpec 5 probe oracleA = [3, 2, 2, 4, 6, 5, 5, 7, 1] :=
  runSpec_of_compiled (by decide) (by decide)
example : runCompiled 5 probe oracleA = some [3, 2, 2, 4, 6, 5, 5, 7, 1] := by decide
example : runCompiled 5 probe oracleA = some (runSpec 5 probe oracleA) :=
  gen_trace_eq_spec 5 probe oracleA (by decide)
/-- neither loop is entered -/
example : runCompiled 5 probe [] = some [4, 7, 1] ∧ runSpec 5 probe [] = [4, 7, 1] :=
  both_of_compiled (by decide) (by decide)
/-- loops cut off by `fuel = 3` -/
example : runCompiled 3 probe [true, false, true, false, true, false, true, false] =
    some [3, 2, 3, 2, 3, 2, 4, 6, 5, 7, 1] ∧
    runSpec 3 probe [true, false, true, false, true, false, true, false] =
      [3, 2, 3, 2, 3, 2, 4, 6, 5, 7, 1] :=
  both_of_compiled (by decide) (by decide)

example : wellScoped nested [(0, false)] = true := by decide
example : runCompiled 4 nested [true, false, true] = some [3, 2, 1] ∧
    runSpec 4 nested [true, false, true] = [3, 2, 1] :=
  both_of_compiled (by decide) (by decide)
example : runCompiled 4 nested [true, true] = some [3, 2, 5, 1] ∧
    runSpec 4 nested [true, true] = [3, 2, 5, 1] :=
  both_of_compiled (by decide) (by decide)
example : runCompiled 4 nested [true, false, false, false] = some [3, 4, 2, 5, 1] ∧
    runSpec 4 nested [true, false, false, false] = [3, 4, 2, 5, 1] :=
  both_of_compiled (by decide) (by decide)

example : wellScoped deferLoop [(0, false)] = true := by decide
/-- the `return` is taken: the second defer runs its loop (one full iteration with the nested
defer, one `continue`, then the condition fails), then the first defer -/
example : runCompiled 5 deferLoop [true, true, true, true, false, false] = some [2, 3, 2, 4, 1] ∧
    runSpec 5 deferLoop [true, true, true, true, false, false] = [2, 3, 2, 4, 1] :=
  both_of_compiled (by decide) (by decide)
/-- falling off the end of the function -/
example : runCompiled 5 deferLoop [false, true, true, true, false, false] = some [6, 2, 3, 2, 4, 1] ∧
    runSpec 5 deferLoop [false, true, true, true, false, false] = [6, 2, 3, 2, 4, 1] :=
  both_of_compiled (by decide) (by decide)
example : runCompiled 5 deferLoop [true, true, true, true, false, false] =
    some (runSpec 5 deferLoop [true, true, true, true, false, false]) :=
  gen_trace_eq_spec 5 deferLoop _ (by decide)

example : wellScoped seededC03_1 [(0, false)] = true := by decide
/-- the `if` is taken; the deferred loop runs one iteration, then breaks -/
example : runCompiled 5 seededC03_1 [true, true, false, true, true] = some [3, 2, 1] ∧
    runSpec 5 seededC03_1 [true, true, false, true, true] = [3, 2, 1] :=
  both_of_compiled (by decide) (by decide)
/-- the `if` is not taken; the deferred loop breaks in its first iteration -/
example : runCompiled 5 seededC03_1 [false, true, true] = some [4, 2, 1] ∧
    runSpec 5 seededC03_1 [false, true, true] = [4, 2, 1] :=
  both_of_compiled (by decide) (by decide)
example : runCompiled 5 seededC03_1 [true, true, false, true, true] =
    some (runSpec 5 seededC03_1 [true, true, false, true, true]) :=
  gen_trace_eq_spec 5 seededC03_1 _ (by decide)

example : wellScoped condBreak [(0, false)] = true := by decide
/-- the `break` in the condition is taken at once: the condition's defer, nothing else -/
example : runCompiled 5 condBreak [true] = some [3, 5, 1] ∧ runSpec 5 condBreak [true] = [3, 5, 1] :=
  both_of_compiled (by decide) (by decide)
/-- one full iteration (the condition's defer runs after the decision, before the body), then
the `break` -/
example : runCompiled 5 condBreak [false, true, true] = some [3, 4, 2, 3, 5, 1] ∧
    runSpec 5 condBreak [false, true, true] = [3, 4, 2, 3, 5, 1] :=
  both_of_compiled (by decide) (by decide)
/-- the condition fails -/
example : runCompiled 5 condBreak [false, false] = some [3, 5, 1] ∧
    runSpec 5 condBreak [false, false] = [3, 5, 1] :=
  both_of_compiled (by decide) (by decide)
example : runCompiled 5 condBreak [false, true, true] = some (runSpec 5 condBreak [false, true, true]) :=
  gen_trace_eq_spec 5 condBreak _ (by decide)

example : wellScoped condCont [(0, false)] = true := by decide
/-- `continue` in the condition, then a full iteration, then the condition fails -/
example : runCompiled 5 condCont [true, false, true, false, false] = some [6, 3, 6, 3, 4, 2, 6, 3, 5, 1] ∧
    runSpec 5 condCont [true, false, true, false, false] = [6, 3, 6, 3, 4, 2, 6, 3, 5, 1] :=
  both_of_compiled (by decide) (by decide)
/-- `continue` for ever, cut off by `fuel = 2` -/
example : runCompiled 2 condCont [true, true, true] = some [6, 3, 6, 3, 5, 1] ∧
    runSpec 2 condCont [true, true, true] = [6, 3, 6, 3, 5, 1] :=
  both_of_compiled (by decide) (by decide)

example : wellScoped condOuter [(0, false)] = true := by decide
/-- `.try` propagation to the block around the loop: condition block, (empty) loop frame, block `7` -/
example : runCompiled 5 condOuter [true] = some [3, 2, 6, 1] ∧ runSpec 5 condOuter [true] = [3, 2, 6, 1] :=
  both_of_compiled (by decide) (by decide)
/-- `return` from the condition in the second iteration -/
example : runCompiled 5 condOuter [false, false, true, false, true] = some [3, 4, 3, 2, 1] ∧
    runSpec 5 condOuter [false, false, true, false, true] = [3, 4, 3, 2, 1] :=
  both_of_compiled (by decide) (by decide)

/-! ### the scheme before the fix (`runCompiledOld`: no loop frame, `continue` runs nothing) -/

/-- `break` out of a `while` ran the function's earlier defer at the jump and again at the end. -/
theorem old_break_scheme_wrong :
    runSpec 5 probe [true, true, false] = [2, 4, 7, 1] ∧
    runCompiledOld 5 probe [true, true, false] = some [2, 1, 4, 7, 1] :=
  ⟨runSpec_of_compiled (by decide) (by decide), by decide⟩

/-- `continue` skipped the loop body's defer. -/
theorem old_continue_scheme_wrong :
    runSpec 5 probe [false, true, true, false] = [4, 5, 7, 1] ∧
    runCompiledOld 5 probe [false, true, true, false] = some [4, 7, 1] :=
  ⟨runSpec_of_compiled (by decide) (by decide), by decide⟩

/-! ### the scheme between the fixes (`runCompiledMid`: loop frame pushed after the condition) -/

/-- `break` in a block condition found no frame of its loop: it ran the function's earlier
defer at the jump and again at the end. -/
theorem mid_break_in_condition_wrong :
    runSpec 5 condBreak [true] = [3, 5, 1] ∧
    runCompiled 5 condBreak [true] = some [3, 5, 1] ∧
    runCompiledMid 5 condBreak [true] = some [3, 1, 5, 1] :=
  have h : runCompiled 5 condBreak [true] = some [3, 5, 1] := by decide
  ⟨runSpec_of_compiled (by decide) h, h, by decide⟩

/-- `continue` in a block condition found no frame of its loop either. -/
theorem mid_continue_in_condition_wrong :
    runSpec 5 condCont [true, false, false] = [6, 3, 6, 3, 5, 1] ∧
    runCompiled 5 condCont [true, false, false] = some [6, 3, 6, 3, 5, 1] ∧
    runCompiledMid 5 condCont [true, false, false] = some [6, 3, 1, 6, 3, 5, 1] :=
  have h : runCompiled 5 condCont [true, false, false] = some [6, 3, 6, 3, 5, 1] := by decide
  ⟨runSpec_of_compiled (by decide) h, h, by decide⟩

end CapyV.C03
