import CapyV.Props.C13
/-!
# C13, struct literals — the members of a `.{ … }` literal are converted one by one

A `.{ a = x, b = y }` literal (an anonymous struct type) is accepted where a named struct is expected
only if EVERY member is itself accepted by the member of that name — there is no "same layout" short
cut (seeded change C13_3 added one). With the nominal laws of `Props/C13.lean` this gives: a member
of one distinct type never lands in a member of another distinct type.
-/
namespace CapyV.C13Lit
open CapyV CapyV.Ty

/-- the literal has a member `name` of type `ty` -/
def Has : Members → Nat → Ty → Prop
  | .nil, _, _ => False
  | .cons n t r, name, ty => (n = name ∧ t = ty) ∨ Has r name ty

theorem membersFitInto_has (fm em : Members) (h : membersFitInto fm em = true)
    (name : Nat) (fty : Ty) (hm : Has fm name fty) :
    ∃ ety, em.lookupLast name = some ety ∧ canFitInto fty ety = true := by
  match fm, hm with
  | .cons n t r, hm =>
    rw [membersFitInto] at h
    simp only [Bool.and_eq_true] at h
    rcases hm with ⟨hn, ht⟩ | hr
    · subst hn ht
      have h1 := h.1
      split at h1
      · cases h1
      · rename_i ety hl
        exact ⟨ety, hl, h1⟩
    · exact membersFitInto_has r em h.2 name fty hr

/-- **every member of an accepted literal is accepted by the member of the same name** -/
theorem literal_members_fit (fm em : Members) (u : Nat)
    (h : canFitInto (.anonStruct fm) (.concreteStruct u em) = true)
    (name : Nat) (fty : Ty) (hm : Has fm name fty) :
    ∃ ety, em.lookupLast name = some ety ∧ canFitInto fty ety = true := by
  rw [fit_anonStruct_struct] at h
  split at h
  · cases h
  · simp only [Bool.and_eq_true] at h
    exact membersFitInto_has fm em h.1 name fty hm

/-- a member of one distinct type is never accepted by a member of ANOTHER distinct type -/
theorem literal_distinct_member (fm em : Members) (u : Nat)
    (h : canFitInto (.anonStruct fm) (.concreteStruct u em) = true)
    (name d d' : Nat) (s t : Ty) (hm : Has fm name (.distinct d s))
    (he : em.lookupLast name = some (.distinct d' t)) : d = d' := by
  obtain ⟨ety, hl, hf⟩ := literal_members_fit fm em u h name _ hm
  rw [he] at hl
  cases hl
  exact (C13.distinct_fit_iff_uid d d' s t).1 hf

/-- non-vacuity: `.{ dist = metres }` is accepted by `Trip { dist: Metres }` and refused by
`Trip' { dist: Feet }` -/
example :
    canFitInto (.anonStruct (.cons 7 (.distinct 1 (.iint 32)) .nil))
               (.concreteStruct 9 (.cons 7 (.distinct 1 (.iint 32)) .nil)) = true ∧
    canFitInto (.anonStruct (.cons 7 (.distinct 1 (.iint 32)) .nil))
               (.concreteStruct 9 (.cons 7 (.distinct 2 (.iint 32)) .nil)) = false := by
  constructor <;> simp [fit_anonStruct_struct, membersFitInto, fit_distinct_distinct,
    Members.lookupLast, Members.length, Members.namesSubset, Members.hasName]

end CapyV.C13Lit
