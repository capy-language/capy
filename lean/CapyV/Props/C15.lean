import CapyV.Proofs.Const
/-!
# C15 — only const values are used as types, sizes, discriminants and comptime args

Model: `CapyV/Model/Const.lean` (`get_const`, `const_data`, the use sites — the code after the
`fix:`), rule: `CapyV/Spec/Const.lean` (`IsConst`, `Denotes`).

The full-strength statement `getConst … = Const ↔ IsConst` is **false** of the code in both
directions; each direction is proved under an explicit decidable guard on the program
(`Prog.soundOk`, `Prog.completeOk`) and each guard has its counterexample. Only the *accepting*
direction (`soundOk`) matters for the property; the divergences it excludes are findings.
-/
namespace CapyV.C15
open CapyV.Const

/-- Soundness of the walk (every fuel, cyclic programs included): if `get_const` answers
`Const`, the expression is const by the README rule — provided no node takes the
`Ty::Type | Ty::File` fallback for something that is not a type literal, and there is no
`Expr::Missing`. -/
theorem getConst_const_imp_IsConst_partial (p : Prog) (hp : p.soundOk = true) (fuel e : Nat)
    (h : getConst p fuel e = .done .const) : IsConst p e :=
  MConst_IsConst hp (getConst_const_MConst h)

/-- the guard is needed: a call whose result type is `type` (`f :: () -> type {..}`; `g(f())`) is
answered `Const` although it is not const by the rule (the compiler then panics in
`evaluate_comptime_args`: `const_data` has no value for it) -/
theorem getConst_typeFallback_counterexample :
    ∃ (p : Prog) (e : Nat), (∀ fuel, getConst p (fuel + 1) e = .done .const) ∧ ¬ IsConst p e := by
  refine ⟨⟨[.other .call .type none], []⟩, 0, ?_, ?_⟩
  · intro fuel
    simp [getConst, loop, Prog.node?, arm]
  · intro h
    cases h <;> rename_i hn <;> cases hn

/-- the guard is needed: `Expr::Missing` sits in the first arm of `get_const` and is answered
`Const`, but no clause of the rule makes it const -/
theorem getConst_missing_counterexample :
    ∃ (p : Prog) (e : Nat), (∀ fuel, getConst p (fuel + 1) e = .done .const) ∧ ¬ IsConst p e := by
  refine ⟨⟨[.atom (.noData .missing)], []⟩, 0, ?_, ?_⟩
  · intro fuel
    simp [getConst, loop, Prog.node?, arm]
  · intro h
    cases h with
    | dataLit hn hk =>
      cases hn
      cases hk
    | _ =>
      rename_i hn
      cases hn

/-- Completeness of the walk, on acyclic programs and under the completeness guard: what is const
by the rule is answered `Const`, unless the fuel runs out (`getConst_terminates_of_acyclic` gives
the fuel that excludes the second alternative). -/
theorem IsConst_imp_getConst_const_partial (p : Prog) (rank : Nat → Nat) (hr : Ranked p rank)
    (hc : p.completeOk = true) (fuel e : Nat) (hI : IsConst p e) :
    getConst p fuel e = .done .const ∨ getConst p fuel e = .outOfFuel :=
  loop_of_MConst hr fuel _ (by
    intro ent hm
    have : ent = ⟨e, []⟩ := by simpa using hm
    subst this
    exact ⟨IsConst_MConst hc hI, by simp⟩)

/-- the guard is needed: a `char` literal is a literal, but falls into the `_` arm -/
theorem getConst_charLit_counterexample :
    ∃ (p : Prog) (e : Nat), IsConst p e ∧ ∀ fuel, getConst p (fuel + 1) e = .done .runtime := by
  refine ⟨⟨[.other .charLit .value none], []⟩, 0, .charLit (cls := .value) (m := none) rfl, ?_⟩
  intro fuel
  simp [getConst, loop, Prog.node?, arm]

/-- on a program whose references are acyclic (`rank` decreases along every edge the walk
follows) `get_const` stops within `cost p (rank e) e` iterations (the size of the unfolding of
`e`: there is no visited set, shared nodes are expanded once per path) -/
theorem getConst_terminates_of_acyclic (p : Prog) (rank : Nat → Nat) (hr : Ranked p rank)
    (e fuel : Nat) (hf : cost p (rank e) e ≤ fuel) : getConst p fuel e ≠ .outOfFuel :=
  loop_terminates hr fuel _ (by simpa [qcost] using hf)

/-- **Headline**: on acyclic programs, under both guards and with the fuel bound, the walk
decides exactly the documented rule. -/
theorem getConst_const_iff_IsConst_partial (p : Prog) (rank : Nat → Nat) (hr : Ranked p rank)
    (hs : p.soundOk = true) (hc : p.completeOk = true) (e fuel : Nat)
    (hf : cost p (rank e) e ≤ fuel) :
    getConst p fuel e = .done .const ↔ IsConst p e := by
  constructor
  · exact getConst_const_imp_IsConst_partial p hs fuel e
  · intro hI
    rcases IsConst_imp_getConst_const_partial p rank hr hc fuel e hI with h | h
    · exact h
    · exact absurd h (getConst_terminates_of_acyclic p rank hr e fuel hf)

/-- `a : usize : a;` — a finished global that refers to itself. After the `fix:` the walk
answers `Runtime` (so every use site reports). -/
theorem cyclic_global_is_runtime :
    ∀ fuel, getConst ⟨[.localGlobal false true 0], []⟩ (fuel + 1) 0 = .done .runtime := by
  intro fuel
  simp [getConst, loop, Prog.node?, arm]

/-- On `a : usize : a;` the loop before the `fix:` (no ancestor check) never ends: for every fuel
the answer is "still running" (`get_const-cyclic-hang`, confirmed on the unfixed tree) -/
theorem unfixed_loop_diverges_counterexample :
    ∀ fuel, loopUnfixed ⟨[.localGlobal false true 0], []⟩ fuel [0] = .outOfFuel := by
  intro fuel
  induction fuel with
  | zero => simp [loopUnfixed]
  | succ f ih => simpa [loopUnfixed, Prog.node?, arm] using ih

/-- a `Runtime` answer makes each use site push its diagnostic and skip `const_data` -/
theorem runtime_reported_not_evaluated (d : Diag) (intOnly : Bool) (p : Prog) (fuel e : Nat)
    (h : getConst p fuel e = .done .runtime) :
    useSite d intOnly p fuel e = ⟨some d, false, .rejected⟩ := by
  simp [useSite, h]

/-- An expression that is not const by the rule is never evaluated, nor accepted, at an array-size,
discriminant or comptime-argument site (under the soundness guard). Whether it is also reported
depends on the answer: `Runtime` is (`runtime_reported_not_evaluated`), `Unknown` is silent. -/
theorem notconst_reported_not_evaluated (d : Diag) (intOnly : Bool) (p : Prog)
    (hp : p.soundOk = true) (fuel e : Nat) (hn : ¬ IsConst p e) :
    (useSite d intOnly p fuel e).evaluated = false ∧
      ∀ v, (useSite d intOnly p fuel e).result ≠ .accepted v := by
  have hne : getConst p fuel e ≠ .done .const :=
    fun h => hn (getConst_const_imp_IsConst_partial p hp fuel e h)
  unfold useSite
  cases hg : getConst p fuel e with
  | done r =>
    cases r with
    | const => exact absurd hg hne
    | runtime => simp
    | unknown => simp
  | outOfFuel => simp
  | dangling => simp

/-- `finish_body` only reports (`GlobalNotConst`), it never evaluates -/
theorem globalSite_never_evaluates (b : Bool) (p : Prog) (fuel e : Nat) :
    (globalSite b p fuel e).evaluated = false := by
  unfold globalSite
  cases getConst p fuel e with
  | done r => cases r <;> simp <;> split <;> simp
  | outOfFuel => simp
  | dangling => simp

/-- The accepted const array length is exactly the value the expression denotes (no guard:
whatever the walk accepts, `const_data` follows the same references) -/
theorem array_len_exact (p : Prog) (fuel e : Nat) (dg : Option Diag) (ev : Bool) (v : Val)
    (h : arrayLenSite p fuel e = ⟨dg, ev, .accepted v⟩) :
    ∃ n, v = .int n ∧ Denotes p e (.int n) := by
  obtain ⟨n, rfl⟩ := (useSite_accepted h).2.2 rfl
  exact ⟨n, rfl, useSite_accepted_denotes h⟩

theorem discriminant_exact (p : Prog) (fuel e : Nat) (dg : Option Diag) (ev : Bool) (v : Val)
    (h : discriminantSite p fuel e = ⟨dg, ev, .accepted v⟩) : Denotes p e v :=
  useSite_accepted_denotes h

theorem comptime_arg_exact (p : Prog) (fuel e : Nat) (dg : Option Diag) (ev : Bool) (v : Val)
    (h : comptimeArgSite p fuel e = ⟨dg, ev, .accepted v⟩) : Denotes p e v :=
  useSite_accepted_denotes h

/-- `n :: G; G :: other.K; (other) K : usize : 3;` used as `[n]T` — node 0 is the size -/
def demo : Prog :=
  ⟨[.local false (some 1), .localGlobal false true 2, .member true 3 true false true 5,
    .localGlobal false true 4, .atom (.noData .import), .atom (.intLit 3)], []⟩

/-- every reference of `demo` points to a higher index, so a rank that falls with the index
decreases along it -/
def demoRank (e : Nat) : Nat := 10 - e

example : demo.soundOk = true ∧ demo.completeOk = true := by decide

example : Ranked demo demoRank := ranked_of_kidsOf (by decide)

example : arrayLenSite demo 20 0 = ⟨none, true, .accepted (.int 3)⟩ := by decide

/-- a mutable local in the chain: reported, not evaluated -/
example : arrayLenSite ⟨[.local false (some 1), .local true (some 2), .atom (.intLit 3)], []⟩ 20 0
    = ⟨some .arraySizeNotConst, false, .rejected⟩ := by decide

/-- a bool literal as comptime argument: const by the rule, accepted by the walk, and
`const_data` has nothing for it (`Ok(None)` → `panic!("… didn't work")`, confirmed) -/
example : comptimeArgSite ⟨[.atom (.noData .boolLit)], []⟩ 5 0 = ⟨none, true, .panic⟩ := by decide

/-- a DIAMOND is not a cycle: `N :: 3; SQUARE :: usize.[N, N];` — the walk over the value of `SQUARE`
(node 0) reaches the body of `N` twice, through two different parents; the ancestor test of the
fixed `get_const` lets both through, so the answer is that of the walk with a single reference
(first example; a test "was this body seen before?" — seeded change C15_3 — would answer
runtime). `globalSite` is the "globals must be constant values" check. -/
def diamond : Prog :=
  ⟨[.arrayLit true [1, 2], .localGlobal false true 3, .localGlobal false true 3, .atom (.intLit 3)], []⟩

example : getConst diamond 20 0 = getConst ⟨[.arrayLit true [1], .localGlobal false true 2, .atom (.intLit 3)], []⟩ 20 0 := by
  decide

example : (globalSite false diamond 20 0).diag = none := by decide

end CapyV.C15
