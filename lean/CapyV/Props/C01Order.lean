import CapyV.Model.EvalOrder
/-!
C01 — left-to-right evaluation: the effects of an expression happen in the order its leaves are
written, and every leaf sees the effects of all leaves written before it (the k-th leaf yields
`c + k`). This is the statement the evaluation-order stream of C01 compares the compiler with
(seeded change C01_2 evaluated struct literal members in declaration order).
-/
namespace CapyV.C01Order
open CapyV.EvalOrder

mutual
theorem run_eq : (e : E) → (c : Nat) →
    run e c = (tags e, List.range' (c + 1) (tags e).length, c + (tags e).length)
  | .tick t, c => rfl
  | .node ks, c => by rw [run, tags, runs_eq ks c]
theorem runs_eq : (ks : List E) → (c : Nat) →
    runs ks c = (tagss ks, List.range' (c + 1) (tagss ks).length, c + (tagss ks).length)
  | [], c => rfl
  | k :: ks, c => by
    rw [runs, run_eq k c, runs_eq ks]
    simp only [tagss, List.length_append]
    rw [Nat.add_right_comm c _ 1, List.range'_append_1, Nat.add_assoc]
end

theorem runs_spec : (ks : List E) → (c : Nat) →
    (runs ks c).1 = tagss ks ∧ (runs ks c).2.1 = List.range' (c + 1) (tagss ks).length ∧
      (runs ks c).2.2 = c + (tagss ks).length :=
  fun ks c => by
    rw [runs_eq]
    exact ⟨rfl, rfl, rfl⟩

/-- **Effects happen in written order**, whatever structure the expression has. -/
theorem effects_in_written_order (e : E) (c : Nat) : (run e c).1 = tags e := by rw [run_eq]

/-- **Every leaf sees all earlier leaves**: the leaves yield `c+1, c+2, …` in written order. -/
theorem leaves_see_earlier_effects (e : E) (c : Nat) :
    (run e c).2.1 = List.range' (c + 1) (tags e).length := by rw [run_eq]

/-- `Pair.{ second = next(), first = next() }`: tags as written, `second` gets 1 and `first` gets 2 -/
example : run (.node [.tick 20, .tick 10]) 0 = ([20, 10], [1, 2], 2) := by decide

end CapyV.C01Order
