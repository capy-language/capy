import CapyV.Proofs.CapyCoreGeneric
import CapyV.Proofs.Generics
import CapyV.Props.C27
/-!
# C16 — generic calls behave like calls to hand-substituted copies

Two layers.

1. On the reference semantics `CapyCore` (`Spec/CapyCoreGeneric.lean`): a generic function is a
   function some of whose parameters are comptime; the meaning of a generic call is the ordinary
   call with the comptime arguments bound like parameters; the hand-substituted copy is
   `GFn.inst` (`substSs`: every occurrence of a comptime parameter replaced by the literal
   argument, the parameter dropped). `subst_lemma` (proved in
   `Proofs/CapyCoreGeneric.lean`) says the two calls are the same computation (value, printed
   output, faults, caller state). Integer comptime parameters; a *type* parameter only selects
   among monomorphic copies on an untyped semantics (`type_param_selects_copy`).
2. On the model of instance identity (`Model/Generics.lean`): distinct call sites get distinct
   instances (fresh, pairwise disjoint `generics_arena` ranges), distinct instances get distinct
   symbols (C27), an instance keeps reading exactly the arguments of its own call whatever is
   instantiated later (non-interference), and instances with equal arguments read equal values —
   the only difference is the range id, which the body cannot observe (`ComptimeParam` reads
   *through* the range).

That the real compiler's instances behave like the copies is checked per program by
`harness/src/c16.rs` (translation validation, `level` of this property).
-/
namespace CapyV.C16
open CapyV.Core CapyV.Core.Generic CapyV.Generics CapyV.Mangle

/-- **Headline.** A call of the generic function `g` (index `f`) with comptime arguments `cs`
and run-time arguments `xs` evaluates — result value, printed lines, fault, resulting state —
exactly like the call of the hand-substituted copy `g.inst cs` (index `f'`) with `xs`, for every
program, caller state and fuel for which the generic call does not run out of fuel. -/
theorem subst_lemma (p : Program) (g : GFn) (cs : List Int) (xs : List Expr) (f f' : Nat)
    (hf : p.fns[f]? = some g.asFn) (hf' : p.fns[f']? = some (g.inst cs))
    (hcs : cs.length = g.cparams.length)
    (hok : okSs (mkSubst g cs) g.body = true)
    (hdisj : ∀ x ∈ g.rparams, x ∉ g.cparams.map (·.1))
    (fuel : Nat) (st : St)
    (hfuel : ∀ st', evalE p fuel (.call f (xs ++ litArgs g cs)) st ≠ .error (.outOfFuel, st')) :
    evalE p fuel (.call f' xs) st = evalE p fuel (.call f (xs ++ litArgs g cs)) st :=
  Generic.subst_lemma p g cs xs f f' hf hf' hcs hok hdisj fuel st hfuel

/-- The body-level statement is an equation at the same fuel (both directions): running the
substituted body without the comptime bindings is the image of running the original body with
them, for any block of statements that never assigns a comptime parameter. -/
theorem subst_body (p : Program) (σ : Subst) (fuel : Nat) (body : List Stmt) (st : St)
    (hA : Agree σ st.env) (hok : okSs σ body = true) :
    execBlock p fuel (substSs σ body) (eraseSt σ st) = mapR σ (execBlock p fuel body st) :=
  Generic.subst_body p σ fuel body st hA hok

/-- Calls with equal comptime arguments behave identically: two copies made for the same
arguments are interchangeable (the index of a copy — its identity — is not observable). -/
theorem equal_args_equal_copy (p : Program) (g : GFn) (cs : List Int) (f1 f2 : Nat)
    (h1 : p.fns[f1]? = some (g.inst cs)) (h2 : p.fns[f2]? = some (g.inst cs))
    (xs : List Expr) (fuel : Nat) (st : St) :
    evalE p fuel (.call f1 xs) st = evalE p fuel (.call f2 xs) st :=
  Generic.equal_args_equal_copy p g cs f1 f2 h1 h2 xs fuel st

/-- A type parameter, on a semantics without typing, selects one of the monomorphic copies: the
instance of the family `F` at `t` *is* `F t` by definition of `instTy`, so the statement is its own
hypothesis; it records the modelling choice and proves nothing beyond it. -/
theorem type_param_selects_copy (p : Program) (F : Ty → GFn) (t : Ty) (f : Nat)
    (h : p.fns[f]? = some (instTy F t).asFn) : p.fns[f]? = some (F t).asFn := h

theorem reachable_inv (hist : List (Site × List CVal)) : Inv (runAll State.empty hist) :=
  runAll_inv hist _ inv_empty

/-- **Distinct calls, distinct instances.** After any history of generic-call visits, two
different call sites (different caller instance or different call expression) whose functions
have at least one named comptime parameter own disjoint arena ranges; in particular their
`raw_start`s differ and so do their `ConcreteLoc`s, whatever the callee. -/
theorem distinct_calls_distinct_instances (hist : List (Site × List CVal))
    (s1 s2 : Site) (r1 r2 : Range) (hne : s1 ≠ s2)
    (h1 : lookupSite s1 (runAll State.empty hist).assoc = some r1)
    (h2 : lookupSite s2 (runAll State.empty hist).assoc = some r2)
    (k1 : r1.start < r1.stop) (k2 : r2.start < r2.stop) (n1 n2 : Nat) :
    r1.start ≠ r2.start ∧ (r2.stop ≤ r1.start ∨ r1.stop ≤ r2.start) ∧
      Instance.mk n1 r1 ≠ Instance.mk n2 r2 := by
  have hinv := reachable_inv hist
  have hd : r2.stop ≤ r1.start ∨ r1.stop ≤ r2.start :=
    sep_disjoint hinv.2 (a := (s1, r1)) (b := (s2, r2)) (lookupSite_mem h1) (lookupSite_mem h2) hne
  refine ⟨by omega, hd, ?_⟩
  intro h
  injection h with _ hr
  subst hr
  omega

/-- **Distinct instances, distinct symbols** (cites C27 `mangle_injective_same_file`): two
instances of the same function (same file, same global / lambda) with different `raw_start`
never share a symbol, for every file path — including the paths in C27's collision classes. -/
theorem distinct_instances_distinct_symbols (file : FileD) (base : Base) (g1 g2 : Nat)
    (hne : g1 ≠ g2) (hn : (Entity.mk file base (some g1) .code).namesOK = true)
    (hs : (mangle (Entity.mk file base (some g1) .code)).isSome) :
    mangle (Entity.mk file base (some g1) .code) ≠ mangle (Entity.mk file base (some g2) .code) := by
  intro h
  have hn2 : (Entity.mk file base (some g2) .code).namesOK = true := by
    simpa [Entity.namesOK] using hn
  have := C27.mangle_injective_same_file (Entity.mk file base (some g1) .code)
    (Entity.mk file base (some g2) .code) rfl hn hn2 hs h
  simp only [Entity.resolve, Entity.mk.injEq] at this
  exact hne (by simpa using this.2.2.1)

/-- C27 `mangle_kind_separated`, cited here for instances: equal symbols mean equal shape, for any
two entities; so a generic instance is never confused with the non-generic entity of the same name
nor with a comptime block. -/
theorem instance_symbol_kind_separated (a b : Entity) (hs : (mangle a).isSome)
    (h : mangle a = mangle b) : a.shape = b.shape :=
  C27.mangle_kind_separated a b hs h

/-- **Non-interference.** Once a call site has been given its instance, that instance keeps
denoting exactly the comptime arguments of its own call, whatever generic calls (of the same or of
other functions, with equal or different arguments) are visited afterwards. -/
theorem instance_reads_own_args (st : State) (hinv : Inv st) (s : Site) (vals : List CVal)
    (hnew : lookupSite s st.assoc = none) (later : List (Site × List CVal)) :
    readArgs (runAll (step st s vals).1 later) (step st s vals).2 = vals ∧
      lookupSite s (runAll (step st s vals).1 later).assoc = some (step st s vals).2 := by
  have h := runAll_stable later _ (step_inv st s vals hinv) s _ (step_assoc_self st s vals)
  exact ⟨by rw [h.1, step_readArgs_fresh st s vals hnew], h.2⟩

/-- **Equal arguments, equal behaviour.** The modelling choice is in the type of `beh`: the body of
an instance observes its comptime parameters only through `readArgs` (`Expr::ComptimeParam`
indexes the range), so behaviour is a function of (function, argument values) and cannot see the
range. Given that, the statement is congruence; the content is `equal_args_equal_reads`, which
proves its hypothesis. -/
theorem equal_args_equal_behaviour {β : Type} (beh : Nat → List CVal → β) (naive : Nat)
    (st : State) (r1 r2 : Range) (h : readArgs st r1 = readArgs st r2) :
    beh naive (readArgs st r1) = beh naive (readArgs st r2) := by rw [h]

/-- Two sites first visited with the same values read equal arguments in every later state (the
hypothesis of `equal_args_equal_behaviour`). -/
theorem equal_args_equal_reads (st : State) (hinv : Inv st) (s1 s2 : Site) (vals : List CVal)
    (hne : s1 ≠ s2) (h1 : lookupSite s1 st.assoc = none) (h2 : lookupSite s2 st.assoc = none)
    (later : List (Site × List CVal)) :
    let st1 := (step st s1 vals)
    let st2 := (step st1.1 s2 vals)
    readArgs (runAll st2.1 later) st1.2 = readArgs (runAll st2.1 later) st2.2 := by
  intro st1 st2
  have hinv1 := step_inv st s1 vals hinv
  have h2' : lookupSite s2 st1.1.assoc = none := by
    show lookupSite s2 (step st s1 vals).1.assoc = none
    unfold step
    simp only [h1]
    simp [lookupSite, h2, Ne.symm hne]
  have a := instance_reads_own_args st hinv s1 vals h1 ((s2, vals) :: later)
  have b := instance_reads_own_args st1.1 hinv1 s2 vals h2' later
  simp only [runAll] at a
  rw [a.1, b.1]

/-- two call sites, same function, same arguments: different ranges, equal reads -/
example :
    let st := runAll State.empty [(⟨0, 5⟩, [.ty 3, .int 7]), (⟨0, 9⟩, [.ty 3, .int 7]), (⟨0, 5⟩, [.ty 3, .int 7])]
    lookupSite ⟨0, 5⟩ st.assoc = some ⟨0, 2⟩ ∧ lookupSite ⟨0, 9⟩ st.assoc = some ⟨2, 4⟩ ∧
      readArgs st ⟨0, 2⟩ = readArgs st ⟨2, 4⟩ ∧ st.arena.length = 4 := by decide

/-- why the hypothesis "at least one named comptime parameter" is there: empty blocks
(`alloc_many([])`) of consecutive calls share their start -/
example :
    let st := runAll State.empty [(⟨0, 1⟩, []), (⟨0, 2⟩, [])]
    lookupSite ⟨0, 1⟩ st.assoc = some ⟨0, 0⟩ ∧ lookupSite ⟨0, 2⟩ st.assoc = some ⟨0, 0⟩ := by decide

/-- hypotheses of `subst_lemma` are satisfiable (see `Generic.Ex` for the rest): the copy of
`g(x1, comptime x2) = x1 * x2` for `x2 = 7` keeps only the run-time parameter, and `g`'s body never
assigns `x2` -/
example : (Generic.Ex.g.inst [7]).params = [1] ∧ okSs (mkSubst Generic.Ex.g [7]) Generic.Ex.g.body = true := by
  decide

end CapyV.C16
