import CapyV.Proofs.Lexer
/-!
# C22 — lexing is total and lossless

Model: `CapyV/Model/Lexer.lean` (+ the table `CapyV/Generated/Tokens.lean`, regenerated from
`/repo/tokenizer.txt` on every run); what the property demands: `CapyV/Spec/Lexer.lean`
(`Matches`, `KindAgrees`, `Tiles`). `Tokens` alone is the generated namespace of `TokenKind`
(opened below); the token structure is written `Lexer.Tokens`.
-/
namespace CapyV.C22
open CapyV CapyV.Regex CapyV.Tokens CapyV.Lexer

/-- The Brzozowski-derivative matcher used by the model and by the
checker decides the textbook denotation of the regular expression. -/
theorem deriv_correct (r : Regex) (w : List Char) : rmatch r w = true ↔ Matches r w :=
  rmatch_iff

/-- The longest-match scan is sound and maximal: it returns the length of the longest prefix
in the language (maximal munch with backtracking to the last accepting position). -/
theorem longest_is_longest (r : Regex) (s : List Char) :
    (∀ m, longest r s = some m → m ≤ s.length ∧ Matches r (s.take m) ∧
        ∀ k, k ≤ s.length → Matches r (s.take k) → k ≤ m) ∧
    (longest r s = none → ∀ k, k ≤ s.length → ¬ Matches r (s.take k)) := by
  refine ⟨fun m h => ?_, fun h k hk hm => ?_⟩
  · obtain ⟨h1, h2⟩ := longest_sound h
    refine ⟨h1, h2, fun k hk hm => ?_⟩
    obtain ⟨m', hm', hle⟩ := longest_max hk hm
    rw [h] at hm'
    cases hm'
    exact hle
  · obtain ⟨m', hm', _⟩ := longest_max hk hm
    rw [h] at hm'
    cases hm'

/-- No rule of `tokenizer.txt` matches the empty text, so every
`lexer.next()` consumes at least one scalar value (termination of the main loop). -/
theorem no_rule_nullable (d : Nat) (p : Pat) (h : (d, p) ∈ rules) : ¬ PatMatches p [] := by
  intro hm
  have := (rules_ok _ h).1
  rw [nullable_iff.mpr hm] at this
  cases this

/-- Every rule other than the three `__Internal*` ones has a
discriminant that is a valid `syntax::TokenKind` discriminant whose variant has the same
`Debug` name (so the `transmute` is defined and the `debug_assert_eq!` holds), and that
kind is never one of the kinds reserved for the sub-lexers or `Error`. -/
theorem transmute_tables_agree (d : Nat) (p : Pat) (h : (d, p) ∈ rules)
    (h1 : d ≠ discInternalChar) (h2 : d ≠ discInternalString) (h3 : d ≠ discInternalComment) :
    ∃ k, transmute d = .ok k ∧ TokenKind.ofNat? d = some k ∧
      lexerKindNames[d]? = some k.toString ∧ k ∉ specials := by
  obtain ⟨-, -, -, -, rK⟩ := rules_ok _ h
  obtain ⟨k, hk, hs⟩ := rK h1 h2 h3
  exact ⟨k, transmute_rule h hk, hk, rule_name h hk, hs⟩

/-- The two enums the macro derives from `tokenizer.txt` have the same variants in the same
order once the `__Internal*` tail is dropped (names equal up to one leading `_`), and the
generated `TokenKind` lists exactly those names. -/
theorem enum_tables_agree :
    tokenKindNames.length + 3 = lexerKindNames.length ∧
    TokenKind.all.map TokenKind.toString = tokenKindNames ∧
    (∀ k : TokenKind, TokenKind.ofNat? k.toNat = some k) ∧
    (List.range tokenKindNames.length).all (fun i =>
      lexerKindNames[i]? == tokenKindNames[i]? ||
      lexerKindNames[i]? == (tokenKindNames[i]?).map ("_" ++ ·)) = true := by
  refine ⟨by decide, kind_names, fun k => by cases k <;> rfl, ?_⟩
  refine List.all_eq_true.mpr fun i hi => ?_
  have := List.all_eq_true.mp names_ok i hi
  simp only [nameOk, Bool.or_eq_true, Bool.and_eq_true] at this ⊢
  exact this.imp_right And.left

/-- **Totality.** For every text, the model of `lexer::lex` terminates (the fuel
`length + 1` suffices) and returns tokens: no invalid `transmute`, no failing
`debug_assert_eq!`, no empty match, no failing `Tokens::new` assertion. -/
theorem lex_total (s : List Char) : ∃ t, lex s = .ok t := by
  obtain ⟨t, h, _⟩ := lex_spec s
  exact ⟨t, h⟩

/-- **C22, full statement (lossless + kinds agree).** The tokens produced for any text tile
it: the text splits into consecutive pieces of whole scalar values, token `i` has the kind of
piece `i`, starts at the UTF-8 length of the pieces before it, the final extra start is the
UTF-8 length of the text, and each piece is a legitimate text for its kind. -/
theorem lex_lossless (s : List Char) (t : Lexer.Tokens) (h : lex s = .ok t) : Tiles s t := by
  obtain ⟨t', h', ht⟩ := lex_spec s
  rw [h] at h'
  cases h'
  exact ht

/-- The cover clauses in the property's own words: one more start than
kinds; the first start is 0; the last is the byte length of the text; starts never decrease
(contiguous, in order); every boundary is a character boundary (the UTF-8 length of a prefix
of whole scalar values). -/
theorem lex_covers (s : List Char) (t : Lexer.Tokens) (h : lex s = .ok t) :
    t.starts.length = t.kinds.length + 1 ∧
    t.starts.head? = some 0 ∧
    t.starts.getLast? = some (utf8Len s) ∧
    t.starts.Pairwise (· ≤ ·) ∧
    ∀ b ∈ t.starts, ∃ k, k ≤ s.length ∧ b = utf8Len (s.take k) := by
  obtain ⟨pieces, h1, h2, h3, _⟩ := lex_lossless s t h
  rw [h3, h2, h1]
  refine ⟨?_, offsetsFrom_head _ _, ?_, offsetsFrom_sorted _ _, ?_⟩
  · simp [offsetsFrom_length]
  · simp [offsetsFrom_last]
    rfl
  · intro b hb
    obtain ⟨k, hk, hbk⟩ := offsetsFrom_boundary 0 pieces b hb
    exact ⟨k, hk, by simpa [flat] using hbk⟩

/-- Token `i` of kind `k` spans bytes `[a, b)`, that span is a
sub-word `w` of whole scalar values of the text, and `k` agrees with `w`. -/
theorem lex_kind_agrees (s : List Char) (t : Lexer.Tokens) (h : lex s = .ok t)
    (i : Nat) (k : TokenKind) (hk : t.kinds[i]? = some k) :
    ∃ pre w post, s = pre ++ w ++ post ∧
      t.starts[i]? = some (utf8Len pre) ∧ t.starts[i + 1]? = some (utf8Len pre + utf8Len w) ∧
      KindAgrees k w := by
  obtain ⟨pieces, h1, h2, h3, h4⟩ := lex_lossless s t h
  rw [h2, List.getElem?_map] at hk
  obtain ⟨p, hp, rfl⟩ := Option.map_eq_some_iff.mp hk
  have hi := (List.getElem?_eq_some_iff.mp hp).1
  have ht : pieces.take (i + 1) = pieces.take i ++ [p] := by simp [List.take_add_one, hp]
  refine ⟨flat (pieces.take i), p.2, flat (pieces.drop (i + 1)), ?_, ?_, ?_,
    h4 p (List.mem_of_getElem? hp)⟩
  · rw [h1]
    conv =>
      lhs
      rw [← List.take_append_drop (i + 1) pieces, ht]
    simp [flat]
  · rw [h3, offsetsFrom_getElem? 0 pieces i (by omega)]
    simp
  · rw [h3, offsetsFrom_getElem? 0 pieces (i + 1) (by omega), ht]
    simp

/-- Whatever text the `__InternalString` / `__InternalChar` /
`__InternalComment` rule matched, the tokens that `lex_string` / `lex_char` / `lex_comment`
push tile exactly that text (first token at `offset`, no gap, nothing beyond the end) and
each piece agrees with its kind (quote, complete escape, non-empty contents, comment leader,
newline-free comment contents). -/
theorem sublexers_tile (d : Nat) (p : Pat) (hmem : (d, p) ∈ rules) (w : List Char)
    (hm : PatMatches p w) (offset : Nat) :
    (d = discInternalString → ∃ pieces : List Piece, w = flat pieces ∧
        (lexString w offset).map (·.1) = pieces.map (·.1) ∧
        (lexString w offset).map (·.2) = startsOf offset pieces ∧
        ∀ pc ∈ pieces, KindAgrees pc.1 pc.2) ∧
    (d = discInternalChar → ∃ pieces : List Piece, w = flat pieces ∧
        (lexChar w offset).map (·.1) = pieces.map (·.1) ∧
        (lexChar w offset).map (·.2) = startsOf offset pieces ∧
        ∀ pc ∈ pieces, KindAgrees pc.1 pc.2) ∧
    (d = discInternalComment → ∃ pieces : List Piece, w = flat pieces ∧
        (lexComment offset (utf8Len w)).map (·.1) = pieces.map (·.1) ∧
        (lexComment offset (utf8Len w)).map (·.2) = startsOf offset pieces ∧
        ∀ pc ∈ pieces, KindAgrees pc.1 pc.2) := by
  obtain ⟨-, rC, rS, rM, -⟩ := rules_ok _ hmem
  -- `Cover` unfolds to the `∃ pieces, …` written out in the statement
  refine ⟨fun hd => ?_, fun hd => ?_, fun hd => ?_⟩
  · cases rS hd
    exact quoted_cover (.inr ⟨rfl, rfl⟩) hm offset
  · cases rC hd
    exact quoted_cover (.inl ⟨rfl, rfl⟩) hm offset
  · cases rM hd
    exact comment_cover hm offset

/-- The executable checker that the harness runs on the
*implementation's* tokens only accepts lossless covers whose kinds agree. -/
theorem checkLex_sound (s : List Char) (t : Lexer.Tokens) (h : checkLex s t = .ok) : Tiles s t := by
  unfold checkLex at h
  split at h
  · cases h
  · next s0 ends hst =>
    split at h
    · cases h
    · next h0 =>
      cases (Decidable.not_not.mp h0 : s0 = 0)
      obtain ⟨pieces, h1, h2, h3, h4⟩ := checkFrom_sound h
      exact ⟨pieces, h1, h2, by rw [hst, h3], h4⟩

/-- The checker accepts the model's own output (so it is not vacuously strict there) on a
text that exercises keywords, numbers, a string with an escape, a comment and an error.
(`decide +kernel`, here and below: the vector is evaluated by the kernel alone, at half the cost of
plain `decide`, and rests on no axiom.) -/
example : (match lex ['i', 'f', ' ', '1', '.', '5', '"', 'a', '\\', 'n', '"', '@', '/', '/', 'c'] with
    | .ok t => checkLex ['i', 'f', ' ', '1', '.', '5', '"', 'a', '\\', 'n', '"', '@', '/', '/', 'c'] t
    | .error _ => .fail "fault" 0) = .ok := by decide +kernel

/-- **Observers.** `Tokens::kind(i)` and `Tokens::range(i)` do not panic for `i < len()`
(no index out of bounds, `TextRange::new`'s `start <= end` assertion holds). -/
theorem tokens_observable (s : List Char) (t : Lexer.Tokens) (h : lex s = .ok t) (i : Nat)
    (hi : i < t.len) :
    (∃ k, t.kind i = .ok k) ∧ ∃ a b, t.range i = .ok (a, b) ∧ a ≤ b := by
  obtain ⟨hlen, _, _, hsorted, _⟩ := lex_covers s t h
  unfold Tokens.len at hi
  constructor
  · unfold Tokens.kind
    rw [List.getElem?_eq_getElem hi]
    exact ⟨_, rfl⟩
  · have h1 : i < t.starts.length := by omega
    have h2 : i + 1 < t.starts.length := by omega
    have hle : t.starts[i] ≤ t.starts[i + 1] :=
      List.pairwise_iff_getElem.mp hsorted i (i + 1) h1 h2 (by omega)
    refine ⟨t.starts[i], t.starts[i + 1], ?_, hle⟩
    unfold Tokens.range
    rw [List.getElem?_eq_getElem h1, List.getElem?_eq_getElem h2]
    simp [Tokens.mkRange, hle]

/-- **Observing the tokens through `Tokens::iter()`, partial.** Pulling at most `len()` items
from `iter()` does not panic and yields `(kind(i), range(i))` in order. -/
theorem iter_traversal_partial (s : List Char) (t : Lexer.Tokens) (h : lex s = .ok t) (k : Nat)
    (hk : k ≤ t.len) : t.iterTake k = .ok (t.items.take k) := by
  obtain ⟨hlen, _, _, hsorted, _⟩ := lex_covers s t h
  unfold Tokens.len at hk
  unfold Tokens.iterTake Tokens.items
  rw [zipEqTake_le k t.kinds t.starts hk (by omega)]
  simp only
  rw [zipEqTake_le k _ (t.starts.drop 1) (by simp; omega) (by simp; omega)]
  simp only
  have e : (((t.kinds.zip t.starts).take k).zip (t.starts.drop 1)).take k =
      ((t.kinds.zip t.starts).zip (t.starts.drop 1)).take k := by
    simp only [List.zip, List.take_zipWith, List.take_take, Nat.min_self]
  rw [e, mapRanges_ok, List.map_take]
  intro x hx
  exact sorted_zip_zip_drop t.starts t.kinds hsorted x (List.mem_of_mem_take hx)

/-- **Observing the tokens through `Tokens::iter()`, counterexample (defect #16 of DESIGN §6).**
Before fix b018128 (`iterAllOld`) the full-strength statement "a complete traversal of `iter()`
yields `len()` items without panicking" is false, and not only at one witness: for *every* text
the complete traversal panics in `zip_eq` (n kinds are zipped with n + 1 starts). -/
theorem old_iter_traversal_panicked (s : List Char) (t : Lexer.Tokens) (h : lex s = .ok t) :
    t.iterAllOld = .error .zipEq := by
  obtain ⟨hlen, _⟩ := lex_covers s t h
  unfold Tokens.iterAllOld
  rw [zipEq_spec, if_neg (by omega)]

/-- concrete witness of the above (`lex("a b").iter().count()`) -/
example : ∃ t, lex ['a', ' ', 'b'] = .ok t ∧ t.iterAllOld = .error .zipEq :=
  ⟨⟨[.Ident, .Whitespace, .Ident], [0, 1, 2, 3]⟩, by decide +kernel⟩

/-- With the one-line repair (`self.starts.iter().copied().take(self.kinds.len())` as the
first `zip_eq` partner) the complete traversal is total and yields every token. -/
theorem iter_traversal_total (s : List Char) (t : Lexer.Tokens) (h : lex s = .ok t) :
    t.iterAll = .ok t.items := by
  obtain ⟨hlen, _, _, hsorted, _⟩ := lex_covers s t h
  unfold Tokens.iterAll Tokens.items
  rw [zipEq_spec, if_pos (by simp; omega)]
  simp only
  rw [zip_take_left, zipEq_spec, if_pos (by simp; omega)]
  simp only
  rw [mapRanges_ok]
  exact sorted_zip_zip_drop t.starts t.kinds hsorted

/-- the model on a text with a keyword, an identifier, `1..2`, a string with an escape, an
unterminated char literal and a 2-byte error: kinds and byte offsets -/
example : lex ['i', 'f', ' ', 'x', '1', '.', '.', '2', '"', '\\', '"', '"', 'é', '\'', 'a'] =
    .ok ⟨[.If, .Whitespace, .Ident, .Dot, .Float, .DoubleQuote, .Escape, .DoubleQuote, .Error,
          .SingleQuote, .StringContents],
         [0, 2, 3, 5, 6, 8, 9, 11, 12, 14, 15, 16]⟩ := by decide +kernel

/-- `KindAgrees` is not trivially true: a keyword's text does not agree with `Ident`. -/
example : checkLex ['i', 'f'] ⟨[.Ident], [0, 2]⟩ ≠ .ok := by decide +kernel

/-- a token boundary inside a scalar value is rejected -/
example : checkLex ['é'] ⟨[.Error, .Error], [0, 1, 2]⟩ ≠ .ok := by decide +kernel

/-- the rule table is non-trivial: literal rules denote exactly their text -/
example : PatMatches (.lit ['a', 's']) ['a', 's'] ∧ ¬ PatMatches (.lit ['a', 's']) ['a'] := by
  constructor
  · exact matches_ofChars_iff.mpr rfl
  · intro h
    cases matches_ofChars_iff.mp h

end CapyV.C22
