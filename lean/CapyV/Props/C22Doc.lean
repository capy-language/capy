import CapyV.Props.C22
/-!
C22 — the token table says what the language documents. `lex_kind_agrees` proves that every token's
kind agrees with its text *relative to the rule table regenerated from `tokenizer.txt`*; if the table
itself is corrupted (seeded change C22_2 turned the rule of the non-breaking space into a 77-character
literal that no input contains) that theorem keeps holding. These obligations pin the regenerated
table to the documented spellings: every listed keyword, operator and punctuation kind is the literal
the README shows, and the one-character texts of the remaining classes lex to their documented kind.
Kinds that are not listed are not constrained.
The vectors `lex s = .ok t` are decided through `DecidableEq (Except ..)`, derived at the end of
`Proofs/Lexer.lean`.
-/
namespace CapyV.C22Doc
open CapyV CapyV.Regex CapyV.Tokens CapyV.Lexer

/-- documented fixed spellings (README "Tokens" / tokenizer.txt at the pin) -/
def documented : List (String × String) :=
  [("As", "as"), ("If", "if"), ("Else", "else"), ("While", "while"), ("Loop", "loop"), ("Switch", "switch"),
   ("In", "in"), ("Distinct", "distinct"), ("Mut", "mut"), ("Extern", "extern"), ("Struct", "struct"),
   ("Enum", "enum"), ("Comptime", "comptime"), ("Return", "return"), ("Break", "break"),
   ("Continue", "continue"), ("Defer", "defer"), ("Try", "try"), ("Catch", "catch"), ("Plus", "+"),
   ("Hyphen", "-"), ("Asterisk", "*"), ("Slash", "/"), ("Percent", "%"), ("Left", "<"), ("DoubleLeft", "<<"),
   ("LeftEquals", "<="), ("Right", ">"), ("DoubleRight", ">>"), ("RightEquals", ">="), ("Bang", "!"),
   ("BangEquals", "!="), ("And", "&"), ("DoubleAnd", "&&"), ("Pipe", "|"), ("DoublePipe", "||"),
   ("Equals", "="), ("DoubleEquals", "=="), ("Tilde", "~"), ("Comma", ","), ("Dot", "."), ("Ellipsis", "..."),
   ("Question", "?"), ("Arrow", "->"), ("FatArrow", "=>"), ("Caret", "^"), ("Backtick", "`"), ("LParen", "("),
   ("RParen", ")"), ("LBrack", "["), ("RBrack", "]"), ("LBrace", "{"), ("RBrace", "}"), ("Colon", ":"),
   ("Semicolon", ";"), ("Hash", "#")]

/-- the kinds that `documented` lists, in its order -/
def documentedKinds : List TokenKind :=
  [.As, .If, .Else, .While, .Loop, .Switch, .In, .Distinct, .Mut, .Extern, .Struct, .Enum, .Comptime,
   .Return, .Break, .Continue, .Defer, .Try, .Catch, .Plus, .Hyphen, .Asterisk, .Slash, .Percent, .Left,
   .DoubleLeft, .LeftEquals, .Right, .DoubleRight, .RightEquals, .Bang, .BangEquals, .And, .DoubleAnd,
   .Pipe, .DoublePipe, .Equals, .DoubleEquals, .Tilde, .Comma, .Dot, .Ellipsis, .Question, .Arrow,
   .FatArrow, .Caret, .Backtick, .LParen, .RParen, .LBrack, .RBrack, .LBrace, .RBrace, .Colon,
   .Semicolon, .Hash]

/-- every documented fixed-text kind exists in the regenerated table with exactly that spelling -/
theorem documented_spellings :
    ∀ p ∈ documented, ∃ k ∈ TokenKind.all, k.toString = p.1 ∧ k.literal? = some p.2 := by
  -- equal string literals are equal by `rfl`; deciding `=` on `String` encodes both sides to UTF-8
  have he : documented.map (fun p => (p.1, some p.2)) =
      documentedKinds.map fun k => (k.toString, k.literal?) := rfl
  intro p hp
  have h := List.mem_map_of_mem (f := fun p : String × String => (p.1, some p.2)) hp
  rw [he] at h
  obtain ⟨k, -, hk⟩ := List.mem_map.mp h
  exact ⟨k, List.mem_of_getElem? (C22.enum_tables_agree.2.2.1 k), congrArg Prod.fst hk,
    congrArg Prod.snd hk⟩

/-- one-token texts of the pattern-defined classes lex, alone, to their documented kind
(U+00A0 is the non-breaking space; `\t`, identifiers, numbers, an unknown character) -/
theorem documented_classes :
    lex [Char.ofNat 160] = .ok ⟨[.NonBreakingSpace], [0, 2]⟩ ∧
    lex [' ', '\t', '\n'] = .ok ⟨[.Whitespace], [0, 3]⟩ ∧
    lex ['x', '_', '1'] = .ok ⟨[.Ident], [0, 3]⟩ ∧
    lex ['1', '_', '0'] = .ok ⟨[.Int], [0, 3]⟩ ∧
    lex ['0', 'x', 'F', 'f'] = .ok ⟨[.Hex], [0, 4]⟩ ∧
    lex ['0', 'b', '1', '0'] = .ok ⟨[.Bin], [0, 4]⟩ ∧
    lex ['1', '.', '5'] = .ok ⟨[.Float], [0, 3]⟩ ∧
    lex ['t', 'r', 'u', 'e'] = .ok ⟨[.Bool], [0, 4]⟩ ∧
    lex ['@'] = .ok ⟨[.Error], [0, 1]⟩ := by
  decide +kernel

/-- the documented shape of a float literal (the comment above the number rules of `tokenizer.txt`:
every digit group starts with a DIGIT, also the one of the exponent): an exponent is part of the
literal only if a digit follows the `e` / sign; `1.5e_` is the float `1.5` and the identifier `e_`
(seeded change C22_3 let the exponent group start with `_`, so `1.5e_` became one Float token that
is not a float). -/
theorem documented_float_shape :
    lex ['1', '.', '5', 'e', '3'] = .ok ⟨[.Float], [0, 5]⟩ ∧
    lex ['1', '.', '5', 'e', '+', '3'] = .ok ⟨[.Float], [0, 6]⟩ ∧
    lex ['1', '_', '0', '.', '2', '_', '5', 'e', '1', '_', '0'] = .ok ⟨[.Float], [0, 11]⟩ ∧
    lex ['1', '.', '5', 'e', '_'] = .ok ⟨[.Float, .Ident], [0, 3, 5]⟩ ∧
    lex ['1', '.', '5', 'e', '_', '3'] = .ok ⟨[.Float, .Ident], [0, 3, 6]⟩ ∧
    lex ['.', '1', 'e', '_'] = .ok ⟨[.Float, .Ident], [0, 2, 4]⟩ ∧
    lex ['1', '.', '5', 'e', '+', '_'] = .ok ⟨[.Float, .Ident, .Plus, .Ident], [0, 3, 4, 5, 6]⟩ ∧
    lex ['1', '.', '5', 'e'] = .ok ⟨[.Float, .Ident], [0, 3, 4]⟩ := by
  decide +kernel

end CapyV.C22Doc
