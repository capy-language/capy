import CapyV.Props.C22
import CapyV.Props.C23
import CapyV.Props.C25
import CapyV.Props.C26
import CapyV.Props.C03
import CapyV.Props.C05
import CapyV.Props.C09
/-!
# C06 — the compiler never crashes or hangs: the panic-freedom obligations of the modelled stages

C06 quantifies over every input of a 60 kLoC compiler; no model here covers `hir_ty` or the
code generator as a whole, and the unchanged tree violates the property in many places (see
`known_findings.json`). What IS proved are the no-panic / termination obligations of the stages
that have a model; they are collected here (re-stated, proved by the theorems of the owning
property) so that a change which breaks one of them breaks C06's obligations too. Everything
else is decided by search on the real CLI (`harness/src/c06.rs`).
`C26`, `C05`, `C09` are imported for their own no-panic theorems: `./check C06` builds this
module, so it fails when one of them breaks.
-/
namespace CapyV.C06

/-- lexing: for every text the lexer returns (fuel suffices, no invalid transmute, no failing
assertion), and a complete `Tokens::iter()` traversal does not panic -/
theorem lexer_total (s : List Char) : ∃ t, CapyV.Lexer.lex s = .ok t ∧ t.iterAll = .ok t.items := by
  obtain ⟨t, ht⟩ := CapyV.C22.lex_total s
  exact ⟨t, ht, CapyV.C22.iter_traversal_total s t ht⟩

/-- parsing: for every event trace with one `AddToken` per non-trivia token the sink never indexes
past the tokens (and is lossless) -/
theorem sink_never_out_of_bounds (ck : Nat) (toks : List CapyV.ParserKernel.Cls)
    (evs : List CapyV.ParserKernel.Ev) (hs : CapyV.ParserKernel.RootShape evs)
    (h : CapyV.ParserKernel.countAdd evs = CapyV.ParserKernel.countOther toks) :
    ∃ out, CapyV.ParserKernel.sinkFinish ck toks evs = some (out, toks.length) := by
  obtain ⟨out, h1, _⟩ := CapyV.C23.sink_lossless ck toks evs hs h
  exact ⟨out, h1⟩

/-- diagnostics positions: `line_col` never panics for an offset inside the text -/
theorem line_col_total (t : List Nat) (off : Nat) (h : off ≤ t.length) :
    (CapyV.LineIndex.lineCol t off).isSome := CapyV.C25.lineCol_total t off h

/-- code generation of defers never hits `expect("block didn't add to defer stack")` /
`expect("we just pushed this")` and does not re-enter `run_defers_up_to` without end, for
every body HIR label resolution accepts (no jump leaves a deferred expression) -/
theorem defer_codegen_total (body : CapyV.Defer.Stmts)
    (h : CapyV.Defer.wellScoped body [(0, false)] = true) :
    (CapyV.Defer.compileProgram body).isSome = true :=
  CapyV.C03.compile_total body h

end CapyV.C06
