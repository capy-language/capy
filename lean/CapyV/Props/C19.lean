import CapyV.Proofs.Abi
/-!
# C19 — calls across the C boundary pass values intact (x86-64 System V)

`CapyV.Abi` is the transcription of `codegen/src/convert/abi/x86_64.rs` (with FIX.patch: function
pointers are INTEGER) plus a model of Cranelift's register assignment for the signature it
builds; `CapyV.SysV` is the psABI written from its text. `Good t`: `t` is in the fragment
(`frag`: integers of every width up to 64 and pointer-sized, bool, char, f32, f64, `^T`, `rawptr`,
`str`, function pointers, optional pointers, non-empty arrays and structs of those, nested,
distinct wrappers), well-formed (C17's `wf`), smaller than 2^31 bytes, and laid out like the C type
(`cLayoutAgrees`: no nested struct member with tail padding).
-/
namespace CapyV.C19
open CapyV CapyV.Layout CapyV.Abi CapyV.SysV

/-- `classify_arg` returns exactly the psABI classification: MEMORY for more than two eightbytes,
otherwise the psABI class of each eightbyte (merge of the classes of the scalar fields lying in
it), NO_CLASS for the unused entries of its eight-entry array; it never panics. -/
theorem classify_eq_psabi (t : Ty) (h : Good t) :
    classifyArg 64 t = ofPsabi (SysV.classify t) :=
  classifyArg_eq t h.1 h.eightbytes

/-- The registers the loop of `fn_ty_to_abi` charges an argument with are the psABI's demand. -/
theorem needed_registers_eq_psabi (t : Ty) (h : Good t) (cs : List PClass)
    (hc : SysV.classify t = some cs) :
    ∃ cls, classifyArg 64 t = .classes cls ∧
      countClass .int cls = SysV.count .integer cs ∧ countClass .sse cls = SysV.count .sse cs := by
  refine ⟨pad8 cs, ?_, countClass_pad8 cs⟩
  rw [classify_eq_psabi t h, hc]
  rfl

/-- For every signature over the fragment — any number of parameters, any result — `fn_ty_to_abi`
does not panic, and the registers / stack slots Cranelift's System V lowering gives to the
signature it builds are exactly the psABI's: INTEGER eightbytes in rdi, rsi, rdx, rcx, r8, r9,
SSE eightbytes in xmm0–7, an argument whose eightbytes do not all get registers entirely on the
stack without consuming any, MEMORY arguments on the stack in order, small results in
rax/rdx/xmm0/xmm1, large results through a hidden pointer that takes rdi. -/
theorem register_assignment_eq_psabi (params : List Ty) (ret : Ty)
    (hp : ∀ t ∈ params, Good t) (hr : ret = .void ∨ Good ret) :
    ∃ abi, fnTyToAbi 64 params ret = some abi ∧
      convAssign (clAssign abi) = SysV.assign params (if ret = .void then none else some ret) := by
  have hall : ∀ t ∈ params, t.isZeroSized = false ∧ StepOk t := fun t ht =>
    ⟨frag_not_zero t (hp t ht).1, stepOk_of_frag t (hp t ht).1 (hp t ht).eightbytes⟩
  unfold fnTyToAbi fnTyToAbiG
  rcases hr with rfl | hr
  · obtain ⟨args, ha1, ha2⟩ := argLoop_eq params 0 0 0 (by omega) (by omega) hall
    refine ⟨{ args := args, ret := none }, ?_, ?_⟩
    · simp [Ty.isZeroSized, ha1]
    · simp [clAssign, convAssign, convRet, SysV.assign, ha2]
  · have hz := frag_not_zero ret hr.1
    have hv : ret ≠ .void := by
      rintro rfl
      cases hz
    simp only [hz, hv, if_false, Bool.not_false, if_true, show classifyArgG true 64 ret = _ from
      classifyArg_eq ret hr.1 hr.eightbytes, SysV.assign]
    cases hc : SysV.classify ret with
    | none =>
      obtain ⟨args, ha1, ha2⟩ := argLoop_eq params 0 1 0 (by omega) (by omega) hall
      refine ⟨{ args := args, ret := some (.indirect (some (size 64 ret))) }, ?_, ?_⟩
      · simp [ofPsabi, ha1]
      · simp [clAssign, convAssign, convRet, ha2]
    | some cs =>
      obtain ⟨args, ha1, ha2⟩ := argLoop_eq params 0 0 0 (by omega) (by omega) hall
      obtain ⟨pm, tys, hpush, hcar, hpm⟩ := pushDirect_carries ret hr.1 hr.eightbytes cs hc
      refine ⟨{ args := args, ret := some pm }, ?_, ?_⟩
      · -- by `ha`, `hpush` is the branch of the `retPart` match that `fn_ty_to_abi` takes
        rcases hpm with ⟨ha, rfl⟩ | ⟨ha, ty, c, rfl, rfl, rfl, hreal, _⟩
        · have hs : splitAggregate 64 ret (pad8 cs) = some tys := by simpa [pushDirect, ha] using hpush
          simp [ofPsabi, ha, hs, ha1]
        · simp [ofPsabi, ha, hreal, ha1]
      · rcases hpm with ⟨_, rfl⟩ | ⟨_, ty, c, rfl, rfl, _⟩ <;>
          simp [clAssign, convAssign, convRet, ha2, hcar.clRets]

/-- On the pinned tree (`Ty::FunctionPointer` falls through to `_ => {}` in `classify_eight_byte`)
the statement is false: a function pointer is classified NO_CLASS. -/
theorem classify_eq_psabi_pinned_counterexample :
    classifyArgG false 64 (.fnPointer .nil (.iint 64)) ≠ ofPsabi (SysV.classify (.fnPointer .nil (.iint 64))) := by
  decide

/-- On the pinned tree a function pointer is not charged a register, so `(fp, i64, i64, i64, i64, struct {i64, i64})`
hands the struct's second half to the stack while gcc expects the whole struct there. -/
theorem register_assignment_pinned_counterexample :
    let s := Ty.concreteStruct 1 (.cons 100 (.iint 64) (.cons 101 (.iint 64) .nil))
    let ps := [Ty.fnPointer .nil (.iint 64), .iint 64, .iint 64, .iint 64, .iint 64, s]
    ∃ abi, fnTyToAbiG false 64 ps .void = some abi ∧
      convAssign (clAssign abi) ≠ SysV.assign ps none ∧
      (clAssign abi).args.getLast? = some (5, [.gpr 5, .stack 8]) ∧
      (SysV.assign ps none).args.getLast? = some (5, [.stack 16]) := by
  refine ⟨_, rfl, ?_, ?_, ?_⟩ <;> decide

/-- On the pinned tree a struct whose first eightbyte holds only a function pointer makes `split_aggregate`
unwrap `None` (compiler panic). -/
theorem split_aggregate_pinned_panics :
    fnTyToAbiG false 64 [.concreteStruct 1 (.cons 100 (.fnPointer .nil (.iint 64)) .nil)] .void = none := by
  decide

/-- After 664a588 every register-wide store of a `Cast` argument (`build_fn`) or result
(`handle_ret`), and every load of a `Cast` result from its slot, lands inside the spill slot —
for every type and every component list. -/
theorem cast_footprint_within_slot (orig : Ty) (tys : List IrTy) :
    ∀ a ∈ castAccesses tys 0, a.1 + a.2 ≤ castSlotSize 64 orig tys := by
  intro a ha
  have := castAccesses_end tys 0 a ha
  unfold castSlotSize
  omega

/-- Before 664a588 (slot = `orig.size()`) it did not: a 3-byte struct is stored with a 4-byte access. -/
theorem cast_footprint_old_slot_counterexample :
    let t := Ty.concreteStruct 1 (.cons 100 (.uint 8) (.cons 101 (.uint 8) (.cons 102 (.uint 8) .nil)))
    ∃ cls tys, classifyArg 64 t = .classes cls ∧ splitAggregate 64 t cls = some tys ∧
      ∃ a ∈ castAccesses tys 0, a.1 + a.2 > castSlotSizeOld 64 t tys :=
  ⟨[.int, .noClass, .noClass, .noClass, .noClass, .noClass, .noClass, .noClass], [.i32],
    by decide, by decide, (0, 4), by decide, by decide⟩

/-- `get_arg_list` loads `ty.bytes()` per component from the *caller's object*: inside the object
whenever the component widths add up to no more than its size … -/
theorem cast_load_within_object_partial (orig : Ty) (tys : List IrTy)
    (h : sumBytes tys ≤ size 64 orig) :
    ∀ a ∈ castAccesses tys 0, a.1 + a.2 ≤ size 64 orig := by
  intro a ha
  have := castAccesses_end tys 0 a ha
  omega

/-- … but not in general: the 3-byte struct is *read* with a 4-byte load (a read past the object,
not a write; it cannot change a value that crosses the boundary). -/
theorem cast_load_within_object_counterexample :
    let t := Ty.concreteStruct 1 (.cons 100 (.uint 8) (.cons 101 (.uint 8) (.cons 102 (.uint 8) .nil)))
    ∃ cls tys, classifyArg 64 t = .classes cls ∧ splitAggregate 64 t cls = some tys ∧
      ∃ a ∈ castAccesses tys 0, a.1 + a.2 > size 64 t :=
  ⟨[.int, .noClass, .noClass, .noClass, .noClass, .noClass, .noClass, .noClass], [.i32],
    by decide, by decide, (0, 4), by decide, by decide⟩

/-- Outside `cLayoutAgrees` Capy and C disagree about the layout itself (not about the calling
convention): in `struct { struct { i64, i8 }, i8 }` Capy puts the last field at offset 9, inside
what C (`sizeof (struct { i64, i8 }) = 16`) treats as tail padding of the inner struct. -/
theorem c_layout_nested_tail_padding_counterexample :
    let inner := Ty.concreteStruct 1 (.cons 100 (.iint 64) (.cons 101 (.iint 8) .nil))
    let ms := Members.cons 100 inner (.cons 101 (.iint 8) .nil)
    structOffsets 64 ms 0 = [0, 9] ∧ SysV.sizeofC inner = 16 ∧ cLayoutAgrees (.concreteStruct 2 ms) = false := by
  decide

/-- `struct { a: f32, b: [3]i8, c: f64 }` -/
def exMixed : Ty := .concreteStruct 1 (.cons 100 (.float 32) (.cons 101 (.concreteArray 3 (.iint 8)) (.cons 102 (.float 64) .nil)))
/-- `struct { p: ?^i32, f: () -> i64 }` -/
def exPtrs : Ty := .concreteStruct 2 (.cons 100 (.optional (.pointer false (.iint 32))) (.cons 101 (.fnPointer .nil (.iint 64)) .nil))
/-- `struct { x: [5]f64 }` -/
def exBig : Ty := .concreteStruct 3 (.cons 100 (.concreteArray 5 (.float 64)) .nil)

example : Good exMixed := ⟨by decide, by decide, by decide, by decide⟩
example : Good exPtrs := ⟨by decide, by decide, by decide, by decide⟩
example : Good exBig := ⟨by decide, by decide, by decide, by decide⟩
example : SysV.classify exMixed = some [.integer, .sse] := by decide
example : SysV.classify exBig = none := by decide
example : classifyArg 64 exMixed = .classes [.int, .sse, .noClass, .noClass, .noClass, .noClass, .noClass, .noClass] := by decide
/-- registers run out: the hidden result pointer and the five `i64` take all six integer registers, so the
two-INTEGER struct, the later `i32` and `exMixed` (whose INTEGER half finds no register) go to the stack whole -/
example : SysV.assign [.iint 64, .iint 64, .iint 64, .iint 64, .iint 64, exPtrs, .iint 32, exMixed] (some exBig) =
    { ret := .sret,
      args := [(0, [.gpr 1]), (1, [.gpr 2]), (2, [.gpr 3]), (3, [.gpr 4]), (4, [.gpr 5]),
               (5, [.stack 16]), (6, [.stack 8]), (7, [.stack 16])] } := by decide

end CapyV.C19
