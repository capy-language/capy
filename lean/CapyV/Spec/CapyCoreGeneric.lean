import CapyV.Spec.CapyCore

/-!
`CapyCoreGeneric` — *generic functions* (functions with compile-time integer parameters) on the
reference interpreter `CapyV.Core`.

A comptime parameter is modelled as an ordinary parameter whose argument is a literal known at
compile time (`GFn.asFn`). The hand-substituted copy replaces every use of the parameter by that
literal and drops the parameter (`substE` …, `GFn.inst`). This file holds the definitions: the
substitution, the side condition on bodies (`okS` …), the relation between the two runs (`Agree`,
`erase`, `mapR`, `GoodR` …) and an example program. That both calls compute the same result is
proved in `Proofs/CapyCoreGeneric.lean`.
-/

namespace CapyV.Core.Generic
open CapyV.Core

/-- a comptime argument: parameter id, its integer type, the literal value -/
structure CArg where
  x : Nat
  ty : Ty
  z : Int
  deriving Repr, Inhabited

abbrev Subst := List CArg

/-- first entry for that id -/
def Subst.find : Subst → Nat → Option CArg
  | [], _ => none
  | c :: r, x => if c.x = x then some c else Subst.find r x

/-- the runtime value of a comptime argument -/
def cval (c : CArg) : Val := .int (wrapTy c.ty c.z)

mutual
def substE (σ : Subst) : Expr → Expr
  | .lit t z => .lit t z
  | .blit b => .blit b
  | .var x =>
    match σ.find x with
    | some c => .lit c.ty c.z
    | none => .var x
  | .bin op t a b => .bin op t (substE σ a) (substE σ b)
  | .cmp op t a b => .cmp op t (substE σ a) (substE σ b)
  | .land a b => .land (substE σ a) (substE σ b)
  | .lor a b => .lor (substE σ a) (substE σ b)
  | .lnot a => .lnot (substE σ a)
  | .neg t a => .neg t (substE σ a)
  | .bnot t a => .bnot t (substE σ a)
  | .cast s d a => .cast s d (substE σ a)
  | .call f args => .call f (substEs σ args)
  | .index a i => .index (substE σ a) (substE σ i)
  | .field a k => .field (substE σ a) k
  | .arrLit es => .arrLit (substEs σ es)
  | .structLit id es => .structLit id (substEs σ es)
  | .nilE => .nilE
  | .someE a => .someE (substE σ a)
  | .unwrap a => .unwrap (substE σ a)
  | .isSome a => .isSome (substE σ a)
  | .ite c a b => .ite (substE σ c) (substE σ a) (substE σ b)
  | .variantLit k none => .variantLit k none
  | .variantLit k (some a) => .variantLit k (some (substE σ a))
  | .isVariant k a => .isVariant k (substE σ a)
  | .unwrapVariant k a => .unwrapVariant k (substE σ a)
  | .euLit isOk a => .euLit isOk (substE σ a)
  | .euIsOk a => .euIsOk (substE σ a)
  | .euUnwrap isOk a => .euUnwrap isOk (substE σ a)
  | .tryE a => .tryE (substE σ a)
def substEs (σ : Subst) : List Expr → List Expr
  | [] => []
  | e :: es => substE σ e :: substEs σ es
end

/-- root variable of a place -/
def rootP : Place → Nat
  | .var x => x
  | .index q _ => rootP q
  | .field q _ => rootP q

/-- the root variable is untouched, index expressions are substituted -/
def substP (σ : Subst) : Place → Place
  | .var x => .var x
  | .index q i => .index (substP σ q) (substE σ i)
  | .field q k => .field (substP σ q) k

mutual
def substS (σ : Subst) : Stmt → Stmt
  | .letS x e => .letS x (substE σ e)
  | .assign pl e => .assign (substP σ pl) (substE σ e)
  | .opAssign op t pl e => .opAssign op t (substP σ pl) (substE σ e)
  | .print e => .print (substE σ e)
  | .ifS c a b => .ifS (substE σ c) (substSs σ a) (substSs σ b)
  | .whileS l c body => .whileS l (substE σ c) (substSs σ body)
  | .block l body => .block l (substSs σ body)
  | .brk l => .brk l
  | .cont l => .cont l
  | .ret none => .ret none
  | .ret (some e) => .ret (some (substE σ e))
  | .deferS d => .deferS (substS σ d)
  | .exprS e => .exprS (substE σ e)
  | .switchS scrut arg arms none => .switchS (substE σ scrut) arg (substArms σ arms) none
  | .switchS scrut arg arms (some d) =>
    .switchS (substE σ scrut) arg (substArms σ arms) (some (substSs σ d))
def substSs (σ : Subst) : List Stmt → List Stmt
  | [] => []
  | s :: ss => substS σ s :: substSs σ ss
/-- switch arms: the keys are kept, the bodies substituted -/
def substArms (σ : Subst) : List (Nat × List Stmt) → List (Nat × List Stmt)
  | [] => []
  | (k, b) :: r => (k, substSs σ b) :: substArms σ r
end

/-- the variable a `switch` binds to the payload is not a comptime parameter -/
def okArg (σ : Subst) : Option Nat → Bool
  | none => true
  | some x => (σ.find x).isNone

mutual
/-- the body never binds or assigns a comptime parameter (they are constants in Capy) -/
def okS (σ : Subst) : Stmt → Bool
  | .letS x _ => (σ.find x).isNone
  | .assign pl _ => (σ.find (rootP pl)).isNone
  | .opAssign _ _ pl _ => (σ.find (rootP pl)).isNone
  | .print _ => true
  | .ifS _ a b => okSs σ a && okSs σ b
  | .whileS _ _ body => okSs σ body
  | .block _ body => okSs σ body
  | .brk _ => true
  | .cont _ => true
  | .ret _ => true
  | .deferS d => okS σ d
  | .exprS _ => true
  | .switchS _ arg arms none => okArg σ arg && okArms σ arms
  | .switchS _ arg arms (some d) => okArg σ arg && okArms σ arms && okSs σ d
def okSs (σ : Subst) : List Stmt → Bool
  | [] => true
  | s :: ss => okS σ s && okSs σ ss
def okArms (σ : Subst) : List (Nat × List Stmt) → Bool
  | [] => true
  | (_, b) :: r => okSs σ b && okArms σ r
end

/-- the environment binds every comptime parameter to its value -/
def Agree (σ : Subst) (env : List (Nat × Val)) : Prop :=
  ∀ x c, σ.find x = some c → lookup x env = some (cval c)

/-- drop the comptime parameters from an environment -/
def erase (σ : Subst) (env : List (Nat × Val)) : List (Nat × Val) :=
  env.filter (fun yv => (σ.find yv.1).isNone)

def eraseSt (σ : Subst) (st : St) : St := { st with env := erase σ st.env }

/-- image of a result: erase the environment of the resulting state (`.ok` and `.error`) -/
def mapR (σ : Subst) {α : Type} : Except (Fault × St) (α × St) → Except (Fault × St) (α × St)
  | .ok (a, st) => .ok (a, eraseSt σ st)
  | .error (flt, st) => .error (flt, eraseSt σ st)

/-- image of a statement result: additionally substitute in the returned defer list -/
def mapR3 (σ : Subst) :
    Except (Fault × St) (Sig × List Stmt × St) → Except (Fault × St) (Sig × List Stmt × St)
  | .ok (sig, regs, st) => .ok (sig, substSs σ regs, eraseSt σ st)
  | .error (flt, st) => .error (flt, eraseSt σ st)

/-- the resulting state (of a successful run and of a faulting one: a `.propagate` fault is
turned back into a `return` by `execS`) still binds the comptime parameters -/
def GoodR (σ : Subst) {α : Type} : Except (Fault × St) (α × St) → Prop
  | .ok (_, st) => Agree σ st.env
  | .error (_, st) => Agree σ st.env

/-- `GoodR` for statement results: in addition, the returned defer list is still well-formed -/
def GoodR3 (σ : Subst) : Except (Fault × St) (Sig × List Stmt × St) → Prop
  | .ok (_, regs, st) => Agree σ st.env ∧ okSs σ regs = true
  | .error (_, st) => Agree σ st.env

/-- a function with compile-time integer parameters -/
structure GFn where
  /-- runtime parameters -/
  rparams : List Nat
  /-- comptime parameters (id, integer type); modelled as the LAST parameters: their arguments are
  literals, which are pure, so where they stand in the evaluation order cannot be observed -/
  cparams : List (Nat × Ty)
  retTy : Ty
  body : List Stmt

/-- reference reading: a comptime parameter is an ordinary (trailing) parameter -/
def GFn.asFn (g : GFn) : Fn :=
  { params := g.rparams ++ g.cparams.map (·.1), retTy := g.retTy, body := g.body }

/-- zip the comptime parameters with their compile-time values -/
def mkSubst (g : GFn) (cs : List Int) : Subst :=
  (g.cparams.zip cs).map (fun pc => ⟨pc.1.1, pc.1.2, pc.2⟩)

/-- the literal standing for a comptime argument -/
def litOf (c : CArg) : Expr := .lit c.ty c.z

/-- `.lit t z` for each comptime parameter -/
def litArgs (g : GFn) (cs : List Int) : List Expr := (mkSubst g cs).map litOf

/-- the hand-substituted copy: comptime parameters dropped, their uses replaced by literals -/
def GFn.inst (g : GFn) (cs : List Int) : Fn :=
  { params := g.rparams, retTy := g.retTy, body := substSs (mkSubst g cs) g.body }

/-- `CapyCore` is untyped: types occur only as annotations inside the syntax. A type-generic
function is therefore a family `F : Ty → GFn`, and instantiating it at `t` *is* the monomorphic
copy `F t` — this definitional remark is the whole content on an untyped semantics. -/
def instTy (F : Ty → GFn) (t : Ty) : GFn := F t

namespace Ex
def i32 : Ty := .int true 32

/-- `fn g(x1, comptime x2: i32) i32 { return x1 * x2 }` -/
def g : GFn :=
  { rparams := [1], cparams := [(2, i32)], retTy := i32,
    body := [.ret (some (.bin .mul i32 (.var 1) (.var 2)))] }

/-- `main` prints the reference generic call `g(6, 7)` and the call of the copy `g_7(6)` -/
def prog : Program :=
  { fns := [ { params := [], retTy := .void,
               body := [ .print (.call 1 ([.lit i32 6] ++ litArgs g [7])),
                         .print (.call 2 [.lit i32 6]) ] },
             g.asFn, g.inst [7] ] }

example : mkSubst g [7] = [⟨2, i32, 7⟩] := rfl
example : litArgs g [7] = [.lit i32 7] := rfl
/-- `substE` really rewrites: the copy multiplies by the literal `7` -/
example : (g.inst [7]).body = [.ret (some (.bin .mul i32 (.var 1) (.lit i32 7)))] := rfl
example : (g.inst [7]).params = [1] := rfl
example : g.asFn.params = [1, 2] := rfl
-- `okS` does reject bodies that assign a comptime parameter
example : okSs (mkSubst g [7]) [.assign (.var 2) (.lit i32 0)] = false := by decide
example : okSs (mkSubst g [7]) [.letS 2 (.lit i32 0)] = false := by decide
-- substitution goes through `switch` arms, the default arm and a variant payload;
-- a `switch` may not bind a comptime parameter
example : substS (mkSubst g [7])
      (.switchS (.variantLit 0 (some (.var 2))) (some 3) [(0, [.print (.var 2)])] (some [.print (.var 2)]))
    = .switchS (.variantLit 0 (some (.lit i32 7))) (some 3) [(0, [.print (.lit i32 7)])]
        (some [.print (.lit i32 7)]) := rfl
example : okS (mkSubst g [7]) (.switchS (.var 1) (some 3) [(0, [.print (.var 2)])] none) = true := by
  decide
example : okS (mkSubst g [7]) (.switchS (.var 1) (some 2) [] none) = false := by decide
example : okS (mkSubst g [7]) (.switchS (.var 1) none [(0, [.letS 2 (.lit i32 0)])] none) = false := by
  decide
end Ex

end CapyV.Core.Generic
