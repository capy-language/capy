import CapyV.Model.Mutability
/-!
# C14 — the place semantics the property demands, written from the property text

A path expression denotes a *place*: the binding the path starts from and the list of pointer
hops taken on the way (explicit `e^`, or the implicit dereference of `p.field` / `p[i]` when `p`
is a pointer), each with the static mutability of the pointer that was followed.

* `::` local, parameter, global: the binding itself and every field / element reached from it
  without following a pointer are read-only;
* `:=` local: the binding and its fields / elements are writable;
* once a pointer has been followed, the data reached is writable iff the pointer followed
  **last** is `^mut` ("through an immutable pointer: rejected; through `^mut` pointers: accepted").
* value expressions (calls, casts, literals, `^e`, blocks, ...) denote temporaries: the property
  says nothing about assigning to a temporary itself (`unspecified`), only about what is reached
  from it through a pointer.

Nothing here looks at initialisers or at how a pointer value was produced.
-/
namespace CapyV.Mutability

inductive Root where
  | mutLocal | immLocal | param | global | temp
  deriving DecidableEq, Repr, Inhabited

structure Place where
  root : Root
  hops : List Bool      -- mutability of every pointer followed, first hop first
  deriving DecidableEq, Repr, Inhabited

/-- following the pointer value of `e` (of type `ty`): one more hop -/
def Place.hop (p : Place) (m : Bool) : Place := { p with hops := p.hops ++ [m] }

def temp : Place := ⟨.temp, []⟩

/-- the place denoted by an expression (meaningful for well-typed expressions) -/
def place : Expr → Place
  | .loc m _ _ => ⟨if m then .mutLocal else .immLocal, []⟩
  | .locNoInit m _ => ⟨if m then .mutLocal else .immLocal, []⟩
  | .param _ => ⟨.param, []⟩
  | .global _ => ⟨.global, []⟩
  | .deref e =>
    match tyOf e with
    | .ptr m _ => (place e).hop m
    | _ => place e
  | .index e =>
    -- `p[i]` with `p : ^[n]T` (or `^mut ^[n]T`, ...: one hop per pointer level); without a
    -- pointer, an element of the array stored at `place e`
    (tyOf e).levels.foldl Place.hop (place e)
  | .member prev _ =>
    match tyOf prev with
    | .file => ⟨.global, []⟩           -- `module.name`
    -- `p.field` with `p : ^S` (one hop per pointer level); without a pointer, a field of the
    -- struct stored at `place prev`
    | t => t.levels.foldl Place.hop (place prev)
  | .paren e => place e
  | .unwrap e => place e               -- the payload of the optional stored at `place e`
  -- values, not places
  | .missing => temp
  | .arrayLit _ => temp
  | .structLit _ => temp
  | .ref _ _ => temp
  | .blockTail _ => temp
  | .call _ => temp
  | .cast _ => temp
  | .other _ => temp

inductive Verdict where
  | writable | readonly | unspecified
  deriving DecidableEq, Repr, Inhabited

/-- writable ⇔ the last hop is `^mut`, or there is no hop and the root is a `:=` local -/
def Place.verdict (p : Place) : Verdict :=
  match p.hops.getLast? with
  | some true => .writable
  | some false => .readonly
  | none =>
    match p.root with
    | .mutLocal => .writable
    | .temp => .unspecified
    | _ => .readonly

def verdict (e : Expr) : Verdict := (place e).verdict

/-- the narrow reading ("nothing immutable anywhere on the way"): every hop is `^mut`, and the
root is a `:=` local when there is no hop. Writable in this sense ⇒ writable in every reading
of the property; the harness only reports a *false rejection* for such targets. -/
def Place.surelyWritable (p : Place) : Bool :=
  p.hops.all id && (match p.hops, p.root with
    | [], .mutLocal => true
    | [], _ => false
    | _ :: _, _ => true)

end CapyV.Mutability
