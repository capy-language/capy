import CapyV.Model.Lexer
/-!
# What C22 demands (declarative), and an executable checker for it

`Matches` is the textbook denotation of a regular expression (no derivatives).
`KindAgrees k w` says when text `w` is a legitimate text for a token of kind `k`.
`Tiles text toks` says that the token list is a lossless cover of the text.
`checkLex` decides `Tiles` for a *given* token list (it is run on the implementation's own
output); `Proofs/Lexer.lean` (`checkFrom_sound`) and `Props/C22.lean` (`checkLex_sound`) prove it sound.
-/
namespace CapyV.Lexer
open CapyV CapyV.Tokens

/-- `w ∈ L(r)` -/
inductive Matches : Regex → List Char → Prop where
  | eps : Matches .eps []
  | cls {neg rs c} : Regex.clsMatch neg rs c = true → Matches (.cls neg rs) [c]
  | cat {a b u v} : Matches a u → Matches b v → Matches (.cat a b) (u ++ v)
  | altL {a b u} : Matches a u → Matches (.alt a b) u
  | altR {a b u} : Matches b u → Matches (.alt a b) u
  | starNil {a} : Matches (.star a) []
  | starCons {a u v} : Matches a u → Matches (.star a) v → Matches (.star a) (u ++ v)
  | plus {a u v} : Matches a u → Matches (.star a) v → Matches (.plus a) (u ++ v)
  | optNone {a} : Matches (.opt a) []
  | optSome {a u} : Matches a u → Matches (.opt a) u

/-- the text is in the language of the rule -/
def PatMatches (p : Pat) (w : List Char) : Prop := Matches p.regex w

/-- Some rule of `tokenizer.txt` declared for `k` (same position in the enum) matches the
whole text, and no *more specific* rule matches it too (a keyword is not an identifier,
`true` is not an identifier); "more specific" is logos' priority. -/
def RuleAgrees (k : TokenKind) (w : List Char) : Prop :=
  ∃ d p, (d, p) ∈ rules ∧ TokenKind.ofNat? d = some k ∧ PatMatches p w ∧
    ∀ d' p', (d', p') ∈ rules → PatMatches p' w → p'.prio ≤ p.prio

/-- **Kind agrees with text.**
* quote / escape / contents / comment pieces: the fixed shapes below;
* `Error`: a non-empty text that no rule of the table matches;
* every other kind `k`: `RuleAgrees`. -/
def KindAgrees (k : TokenKind) (w : List Char) : Prop :=
  match k with
  | .SingleQuote => w = ['\'']
  | .DoubleQuote => w = ['"']
  | .Escape => ∃ c, w = ['\\', c] ∧ c ≠ '\n'
  | .StringContents => w ≠ [] ∧ '\\' ∉ w ∧ '\n' ∉ w ∧ ('"' ∉ w ∨ '\'' ∉ w)
  | .CommentLeader => w = ['/', '/']
  | .CommentContents => '\n' ∉ w
  | .Error => w ≠ [] ∧ ∀ d p, (d, p) ∈ rules → ¬ PatMatches p w
  | k => RuleAgrees k w

/-- byte offsets of the piece boundaries, starting at `off` (one more entry than pieces) -/
def offsetsFrom (off : Nat) : List (TokenKind × List Char) → List Nat
  | [] => [off]
  | p :: ps => off :: offsetsFrom (off + utf8Len p.2) ps

/-- **Lossless cover.** The text splits into consecutive pieces (lists of scalar values, so
every boundary is a character boundary), token `i` has the kind of piece `i` and starts at
the UTF-8 length of everything before piece `i`, the extra last entry of `starts` is the
UTF-8 length of the text, and every piece is a legitimate text for its kind. -/
def Tiles (text : List Char) (t : Tokens) : Prop :=
  ∃ pieces : List (TokenKind × List Char),
    text = pieces.flatMap (·.2) ∧
    t.kinds = pieces.map (·.1) ∧
    t.starts = offsetsFrom 0 pieces ∧
    ∀ p ∈ pieces, KindAgrees p.1 p.2

/-! ## executable checker -/

/-- split off the prefix of exactly `n` UTF-8 bytes (fails inside a scalar value) -/
def takeBytes : List Char → Nat → Option (List Char × List Char)
  | s, 0 => some ([], s)
  | [], _ + 1 => none
  | c :: cs, n + 1 =>
    if c.utf8Size ≤ n + 1 then
      match takeBytes cs (n + 1 - c.utf8Size) with
      | some (a, b) => some (c :: a, b)
      | none => none
    else none

def patMatch (p : Pat) (w : List Char) : Bool := Regex.rmatch p.regex w

def ruleAgreesB (k : TokenKind) (w : List Char) : Bool :=
  rules.any fun dp =>
    TokenKind.ofNat? dp.1 == some k && patMatch dp.2 w &&
      rules.all fun dp' => !patMatch dp'.2 w || decide (dp'.2.prio ≤ dp.2.prio)

def kindOk (k : TokenKind) (w : List Char) : Bool :=
  match k with
  | .SingleQuote => w == ['\'']
  | .DoubleQuote => w == ['"']
  | .Escape => match w with
    | [a, c] => a == '\\' && c != '\n'
    | _ => false
  | .StringContents => !w.isEmpty && !w.contains '\\' && !w.contains '\n' &&
      (!w.contains '"' || !w.contains '\'')
  | .CommentLeader => w == ['/', '/']
  | .CommentContents => !w.contains '\n'
  | .Error => !w.isEmpty && rules.all fun dp => !patMatch dp.2 w
  | k => ruleAgreesB k w

/-- label of the first failed clause, for triage -/
inductive CheckResult where
  | ok
  | fail (label : String) (tokenIdx : Nat)
  deriving Repr, DecidableEq

/-- walk the tokens: `cur` = byte offset reached, `ends` = the remaining entries of `starts` -/
def checkFrom : List Char → Nat → Nat → List TokenKind → List Nat → CheckResult
  | s, _, i, [], [] => if s.isEmpty then .ok else .fail "end-not-text-len" i
  | s, cur, i, k :: ks, e :: es =>
    if e < cur then .fail "starts-decrease" i
    else
      match takeBytes s (e - cur) with
      | none => .fail "boundary-not-on-char-or-past-end" i
      | some (piece, rest) =>
        if kindOk k piece then checkFrom rest e (i + 1) ks es
        else .fail ("kind-disagrees:" ++ k.toString) i
  | _, _, i, _, _ => .fail "kinds-starts-length-mismatch" i

def checkLex (text : List Char) (t : Tokens) : CheckResult :=
  match t.starts with
  | [] => .fail "kinds-starts-length-mismatch" 0
  | s0 :: ends =>
    if s0 ≠ 0 then .fail "first-start-not-0" 0 else checkFrom text 0 0 t.kinds ends

end CapyV.Lexer
