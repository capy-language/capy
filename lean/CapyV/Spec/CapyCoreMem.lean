import CapyV.Spec.CapyCore
/-!
`CapyCoreMem` — `CapyCore` with an *addressable store*: the reference semantics used by the
end-to-end properties (`CORE run` of the driver). It is `CapyV.Core` (same integers, control
flow, defers, sums, `.try`, exit status rule) plus

* pointers `^T` / `^mut T`: `^x`, `^mut x.f[i]`, `p^`, `p^ = v`, `p^.f = v`, `p^[i] = v`,
  pointers as arguments, in structs and optionals;
* slices `[]T`: the implicit array → slice conversion of an array *place*, `.len`, indexing with
  the run-time bounds check, writes through a slice, `[N]T.(slice)`;
* function values: a named function stored in a local and called through it; recursion (every
  activation has its own frame, so a pointer into an outer activation of the same function stays
  distinct from the inner one's variables);
* `char`: literals, `==`/`!=`, casts from and to the integers, printed as the character.

The store: every function activation is a *frame* with a fresh id (never reused); a frame maps
variables to values; a **cell** is `(frame id, variable, access path)`. A pointer value is a cell,
a slice value a cell (of the array) and a length. Aggregates are values: `b := a` copies, and a
pointer into `a` does not see into `b`. A frame disappears when its function returns; a
dereference of a pointer into a dead frame is `stuck` (the generator never produces one; a run
that hits it is not compared) — the semantics never invents a behaviour for it.

Written from the README and the property statements, like `CapyCore`. `CapyV.Core` itself is kept
unchanged: it is the object of C16's substitution lemma (`Proofs/CapyCoreGeneric.lean`), and the
driver runs every program of the common fragment through both interpreters (`CORE xcheck`).
-/
namespace CapyV.CoreMem
open CapyV.Core (BinOp CmpOp wrap cmpInt listSet Outcome)

inductive Ty where
  | int (signed : Bool) (bits : Nat)
  | bool
  | void
  | arr (n : Nat) (elem : Ty)
  | opt (elem : Ty)
  | struct (id : Nat)
  | enum (id : Nat)
  | errUnion (err ok : Ty)
  | ptr (mutable : Bool) (pointee : Ty)
  | slice (elem : Ty)
  | char
  deriving DecidableEq, Repr, Inhabited

/-- an addressable location: frame id, variable, path of element / field indices below it -/
structure Cell where
  frame : Nat
  var : Nat
  path : List Nat
  deriving DecidableEq, Repr, Inhabited

def Cell.push (c : Cell) (k : Nat) : Cell := { c with path := c.path ++ [k] }

inductive Val where
  | int (z : Int)
  | bool (b : Bool)
  | void
  | arr (vs : List Val)
  | nil
  | some (v : Val)
  | struct (fields : List Val)
  | variant (k : Nat) (payload : Val)
  | eu (isOk : Bool) (v : Val)
  /-- `^T` / `^mut T`: the cell pointed to (mutability is a matter of typing, property C14) -/
  | ptr (c : Cell)
  /-- `[]T`: the cell of the underlying array and the length -/
  | slice (c : Cell) (len : Nat)
  /-- a function value: the index of a (non-capturing) function -/
  | fn (f : Nat)
  /-- a `char` (8 bits; printed as the character) -/
  | char (n : Nat)
  deriving Repr, Inhabited

inductive Expr where
  | lit (t : Ty) (z : Int)
  | blit (b : Bool)
  | var (x : Nat)
  | bin (op : BinOp) (t : Ty) (a b : Expr)
  | cmp (op : CmpOp) (t : Ty) (a b : Expr)
  | land (a b : Expr) | lor (a b : Expr) | lnot (a : Expr)
  | neg (t : Ty) (a : Expr) | bnot (t : Ty) (a : Expr)
  | cast (src dst : Ty) (a : Expr)
  | call (f : Nat) (args : List Expr)
  | index (a : Expr) (i : Expr)
  | field (a : Expr) (k : Nat)
  | arrLit (elems : List Expr)
  | structLit (id : Nat) (fields : List Expr)
  | nilE
  | someE (a : Expr)
  | unwrap (a : Expr)
  | isSome (a : Expr)
  | ite (c a b : Expr)
  | variantLit (k : Nat) (payload : Option Expr)
  | isVariant (k : Nat) (a : Expr)
  | unwrapVariant (k : Nat) (a : Expr)
  | euLit (isOk : Bool) (a : Expr)
  | euIsOk (a : Expr)
  | euUnwrap (isOk : Bool) (a : Expr)
  | tryE (a : Expr)
  /-- `^a` / `^mut a`: `a` is place-shaped (`var`, `index`, `field`, `deref`) -/
  | addrOf (a : Expr)
  /-- `a^` -/
  | deref (a : Expr)
  /-- the implicit `[N]T → []T` conversion of an array place -/
  | sliceOf (a : Expr)
  /-- `a.len` of a slice or an array -/
  | len (a : Expr)
  /-- `[N]T.(s)`: copy of the `N` elements a slice refers to -/
  | sliceToArr (n : Nat) (a : Expr)
  /-- a function used as a value -/
  | fnRef (f : Nat)
  /-- `c(args)` where `c` evaluates to a function value (evaluated before the arguments) -/
  | callV (c : Expr) (args : List Expr)
  /-- a character literal -/
  | clit (n : Nat)
  deriving Repr, Inhabited

/-- assignable places -/
inductive Place where
  | var (x : Nat)
  | index (p : Place) (i : Expr)
  | field (p : Place) (k : Nat)
  /-- `e^` -/
  | deref (e : Expr)
  deriving Repr, Inhabited

inductive Stmt where
  | letS (x : Nat) (e : Expr)
  | assign (p : Place) (e : Expr)
  | opAssign (op : BinOp) (t : Ty) (p : Place) (e : Expr)
  | print (e : Expr)
  | ifS (c : Expr) (thenB : List Stmt) (elseB : List Stmt)
  | whileS (label : Nat) (c : Expr) (body : List Stmt)
  | block (label : Option Nat) (body : List Stmt)
  | brk (label : Nat)
  | cont (label : Nat)
  | ret (e : Option Expr)
  | deferS (s : Stmt)
  | exprS (e : Expr)
  | switchS (scrut : Expr) (arg : Option Nat) (arms : List (Nat × List Stmt)) (default : Option (List Stmt))
  deriving Repr, Inhabited

structure Fn where
  params : List Nat
  retTy : Ty
  body : List Stmt
  deriving Repr, Inhabited

structure Program where
  fns : List Fn            -- `fns[0]` is `main`
  deriving Repr, Inhabited

/-- the expression read as a place (`none`: not place-shaped) -/
def toPlace? : Expr → Option Place
  | .var x => some (.var x)
  | .index a i => (toPlace? a).map (fun q => .index q i)
  | .field a k => (toPlace? a).map (fun q => .field q k)
  | .deref a => some (.deref a)
  | _ => none

/-! ### integers (those of `CapyCore`) -/

def intTy : Ty → Core.Ty
  | .int s b => .int s b
  | _ => .void

def wrapTy (t : Ty) (z : Int) : Int := Core.wrapTy (intTy t) z

def binInt (op : BinOp) (t : Ty) (a b : Int) : Option Int := Core.binInt op (intTy t) a b

def castVal (src dst : Ty) (v : Val) : Option Val :=
  match src, dst, v with
  | .int _ _, .int s b, .int z => some (.int (wrap s b z))
  | .bool, .int _ _, .bool b => some (.int (if b then 1 else 0))
  | .int _ _, .bool, .int z => some (.bool (z != 0))
  | .bool, .bool, v => some v
  | .char, .int s b, .char n => some (.int (wrap s b n))
  | .int _ _, .char, .int z => some (.char (wrap false 8 z).toNat)
  | .char, .char, v => some v
  | _, _, _ => none

/-! ### the store -/

abbrev Env := List (Nat × Val)

def lookup (x : Nat) : Env → Option Val
  | [] => none
  | (y, v) :: r => if x = y then some v else lookup x r

def setVar (x : Nat) (v : Val) : Env → Env
  | [] => [(x, v)]
  | (y, w) :: r => if x = y then (x, v) :: r else (y, w) :: setVar x v r

/-- the sub-value at an access path -/
def getPath : Val → List Nat → Option Val
  | v, [] => some v
  | .arr vs, i :: r =>
    match vs[i]? with
    | some e => getPath e r
    | none => none
  | .struct fs, i :: r =>
    match fs[i]? with
    | some e => getPath e r
    | none => none
  | _, _ :: _ => none

/-- replace the sub-value at an access path (`none`: the path does not exist in that value) -/
def setPath : Val → List Nat → Val → Option Val
  | _, [], v => some v
  | .arr vs, i :: r, v =>
    match vs[i]? with
    | some e =>
      match setPath e r v with
      | some e' => some (.arr (listSet vs i e'))
      | none => none
    | none => none
  | .struct fs, i :: r, v =>
    match fs[i]? with
    | some e =>
      match setPath e r v with
      | some e' => some (.struct (listSet fs i e'))
      | none => none
    | none => none
  | _, _ :: _, _ => none

structure St where
  /-- id of the running activation -/
  fid : Nat
  /-- its variables -/
  env : Env
  /-- the suspended callers, innermost first -/
  stack : List (Nat × Env)
  /-- next fresh frame id (ids are never reused: a dead frame stays dead) -/
  next : Nat
  out : List String               -- printed lines, newest first
  deriving Repr, Inhabited

def lookupFrame (f : Nat) : List (Nat × Env) → Option Env
  | [] => none
  | (g, e) :: r => if f = g then some e else lookupFrame f r

def setFrame (f : Nat) (e : Env) : List (Nat × Env) → List (Nat × Env)
  | [] => []
  | (g, e') :: r => if f = g then (g, e) :: r else (g, e') :: setFrame f e r

/-- the variables of a live frame -/
def frameEnv (st : St) (f : Nat) : Option Env :=
  if f = st.fid then some st.env else lookupFrame f st.stack

def withFrameEnv (st : St) (f : Nat) (e : Env) : St :=
  if f = st.fid then { st with env := e } else { st with stack := setFrame f e st.stack }

/-- read a cell; `none`: dead frame, unbound variable or a path that does not exist -/
def loadCell (st : St) (c : Cell) : Option Val :=
  match frameEnv st c.frame with
  | none => none
  | some env =>
    match lookup c.var env with
    | none => none
    | some v => getPath v c.path

/-- write a cell: exactly that sub-value of that variable of that frame is replaced -/
def storeCell (st : St) (c : Cell) (v : Val) : Option St :=
  match frameEnv st c.frame with
  | none => none
  | some env =>
    match lookup c.var env with
    | none => none
    | some old =>
      match setPath old c.path v with
      | none => none
      | some new => some (withFrameEnv st c.frame (setVar c.var new env))

/-- enter a function: the caller is suspended, the callee gets a fresh frame id -/
def pushFrame (st : St) (env : Env) : St :=
  { fid := st.next, env := env, stack := (st.fid, st.env) :: st.stack, next := st.next + 1, out := st.out }

/-- leave a function: its frame dies; the caller resumes with whatever the callee wrote into it -/
def popFrame (st : St) : St :=
  match st.stack with
  | (f, e) :: r => { fid := f, env := e, stack := r, next := st.next, out := st.out }
  | [] => st

/-! ### machine state -/

inductive Sig where
  | normal
  | brk (l : Nat)
  | cont (l : Nat)
  | ret (v : Val)
  deriving Repr, Inhabited

inductive Fault where
  | indexOutOfBounds
  | unwrapWrongVariant
  | outOfFuel
  /-- the program left the fragment's rules (ill-typed, unknown variable, division by zero,
  dereference of a pointer into a dead frame …): the generator never produces these; a run that
  hits one is not compared -/
  | stuck (why : String)
  | propagate (v : Val)
  deriving Repr, Inhabited

def showVal : Val → String
  | .int z => toString z
  | .bool b => if b then "true" else "false"
  | .char n => String.singleton (Char.ofNat n)
  | _ => "<aggregate>"

/-- the element cell an index selects in the value stored at `c` (array or slice) -/
def indexCell (c : Cell) (cur : Option Val) (k : Int) : Except Fault Cell :=
  if k < 0 then .error (.stuck "negative index") else
  match cur with
  | some (.arr vs) => if k.toNat < vs.length then .ok (c.push k.toNat) else .error .indexOutOfBounds
  | some (.slice c' len) => if k.toNat < len then .ok (c'.push k.toNat) else .error .indexOutOfBounds
  | some _ => .error (.stuck "index on non-array")
  | none => .error (.stuck "index in a dead frame or an unbound variable")

mutual
/-- expression evaluation, left to right -/
def evalE (p : Program) : Nat → Expr → St → Except (Fault × St) (Val × St)
  | 0, _, st => .error (.outOfFuel, st)
  | fuel + 1, e, st =>
    match e with
    | .lit t z => .ok (.int (wrapTy t z), st)
    | .blit b => .ok (.bool b, st)
    | .var x =>
      match lookup x st.env with
      | some v => .ok (v, st)
      | none => .error (.stuck s!"unbound variable {x}", st)
    | .bin op t a b =>
      match evalE p fuel a st with
      | .error e => .error e
      | .ok (va, st1) =>
        match evalE p fuel b st1 with
        | .error e => .error e
        | .ok (vb, st2) =>
          match va, vb with
          | .int x, .int y =>
            match binInt op t x y with
            | some r => .ok (.int r, st2)
            | none => .error (.stuck "division by zero or shift out of range", st2)
          | _, _ => .error (.stuck "bin on non-ints", st2)
    | .cmp op _ a b =>
      match evalE p fuel a st with
      | .error e => .error e
      | .ok (va, st1) =>
        match evalE p fuel b st1 with
        | .error e => .error e
        | .ok (vb, st2) =>
          match va, vb with
          | .int x, .int y => .ok (.bool (cmpInt op x y), st2)
          | .bool x, .bool y =>
            match op with
            | .eq => .ok (.bool (x == y), st2)
            | .ne => .ok (.bool (x != y), st2)
            | _ => .error (.stuck "ordering on bools", st2)
          | .char x, .char y =>
            match op with
            | .eq => .ok (.bool (x == y), st2)
            | .ne => .ok (.bool (x != y), st2)
            | _ => .error (.stuck "ordering on chars", st2)
          | _, _ => .error (.stuck "cmp on non-scalars", st2)
    | .land a b =>
      match evalE p fuel a st with
      | .error e => .error e
      | .ok (.bool false, st1) => .ok (.bool false, st1)
      | .ok (.bool true, st1) => evalE p fuel b st1
      | .ok (_, st1) => .error (.stuck "&& on non-bool", st1)
    | .lor a b =>
      match evalE p fuel a st with
      | .error e => .error e
      | .ok (.bool true, st1) => .ok (.bool true, st1)
      | .ok (.bool false, st1) => evalE p fuel b st1
      | .ok (_, st1) => .error (.stuck "|| on non-bool", st1)
    | .lnot a =>
      match evalE p fuel a st with
      | .error e => .error e
      | .ok (.bool b, st1) => .ok (.bool (!b), st1)
      | .ok (_, st1) => .error (.stuck "! on non-bool", st1)
    | .neg t a =>
      match evalE p fuel a st with
      | .error e => .error e
      | .ok (.int z, st1) => .ok (.int (wrapTy t (-z)), st1)
      | .ok (_, st1) => .error (.stuck "- on non-int", st1)
    | .bnot t a =>
      match evalE p fuel a st with
      | .error e => .error e
      | .ok (.int z, st1) => .ok (.int (wrapTy t (-z - 1)), st1)
      | .ok (_, st1) => .error (.stuck "~ on non-int", st1)
    | .cast src dst a =>
      match evalE p fuel a st with
      | .error e => .error e
      | .ok (v, st1) =>
        match castVal src dst v with
        | some r => .ok (r, st1)
        | none => .error (.stuck "unsupported cast", st1)
    | .call f args =>
      match evalArgs p fuel args st with
      | .error e => .error e
      | .ok (vs, st1) =>
        match p.fns[f]? with
        | none => .error (.stuck s!"unknown function {f}", st1)
        | some fn =>
          if fn.params.length ≠ vs.length then .error (.stuck "arity", st1) else
          match execBlock p fuel fn.body (pushFrame st1 (fn.params.zip vs)) with
          | .error (flt, st2) => .error (flt, popFrame st2)
          | .ok (sig, st2) =>
            let st3 := popFrame st2
            match sig with
            | .ret v => .ok (v, st3)
            | .normal => .ok (.void, st3)
            | _ => .error (.stuck "break/continue escaped a function", st3)
    | .index a i =>
      match evalE p fuel a st with
      | .error e => .error e
      | .ok (va, st1) =>
        match evalE p fuel i st1 with
        | .error e => .error e
        | .ok (vi, st2) =>
          match va, vi with
          | .arr vs, .int k =>
            if k < 0 then .error (.stuck "negative index", st2) else
            match vs[k.toNat]? with
            | some v => .ok (v, st2)
            | none => .error (.indexOutOfBounds, st2)
          | .slice c len, .int k =>
            -- the run-time bounds check against the slice's length, before any access
            if k < 0 then .error (.stuck "negative index", st2) else
            if k.toNat < len then
              match loadCell st2 (c.push k.toNat) with
              | some v => .ok (v, st2)
              | none => .error (.stuck "slice into a dead frame", st2)
            else .error (.indexOutOfBounds, st2)
          | _, _ => .error (.stuck "index on non-array", st2)
    | .field a k =>
      match evalE p fuel a st with
      | .error e => .error e
      | .ok (.struct fs, st1) =>
        match fs[k]? with
        | some v => .ok (v, st1)
        | none => .error (.stuck "no such field", st1)
      | .ok (_, st1) => .error (.stuck "field of non-struct", st1)
    | .arrLit es =>
      match evalArgs p fuel es st with
      | .error e => .error e
      | .ok (vs, st1) => .ok (.arr vs, st1)
    | .structLit _ es =>
      match evalArgs p fuel es st with
      | .error e => .error e
      | .ok (vs, st1) => .ok (.struct vs, st1)
    | .nilE => .ok (.nil, st)
    | .someE a =>
      match evalE p fuel a st with
      | .error e => .error e
      | .ok (v, st1) => .ok (.some v, st1)
    | .unwrap a =>
      match evalE p fuel a st with
      | .error e => .error e
      | .ok (.some v, st1) => .ok (v, st1)
      | .ok (.nil, st1) => .error (.unwrapWrongVariant, st1)
      | .ok (_, st1) => .error (.stuck "unwrap of non-optional", st1)
    | .isSome a =>
      match evalE p fuel a st with
      | .error e => .error e
      | .ok (.some _, st1) => .ok (.bool true, st1)
      | .ok (.nil, st1) => .ok (.bool false, st1)
      | .ok (_, st1) => .error (.stuck "is_variant of non-optional", st1)
    | .variantLit k none => .ok (.variant k .void, st)
    | .variantLit k (some a) =>
      match evalE p fuel a st with
      | .error e => .error e
      | .ok (v, st1) => .ok (.variant k v, st1)
    | .isVariant k a =>
      match evalE p fuel a st with
      | .error e => .error e
      | .ok (.variant k' _, st1) => .ok (.bool (k == k'), st1)
      | .ok (_, st1) => .error (.stuck "is_variant of non-enum", st1)
    | .unwrapVariant k a =>
      match evalE p fuel a st with
      | .error e => .error e
      | .ok (.variant k' v, st1) => if k = k' then .ok (v, st1) else .error (.unwrapWrongVariant, st1)
      | .ok (_, st1) => .error (.stuck "unwrap of non-enum", st1)
    | .euLit isOk a =>
      match evalE p fuel a st with
      | .error e => .error e
      | .ok (v, st1) => .ok (.eu isOk v, st1)
    | .euIsOk a =>
      match evalE p fuel a st with
      | .error e => .error e
      | .ok (.eu b _, st1) => .ok (.bool b, st1)
      | .ok (_, st1) => .error (.stuck "is_variant of non-error-union", st1)
    | .euUnwrap isOk a =>
      match evalE p fuel a st with
      | .error e => .error e
      | .ok (.eu b v, st1) => if b = isOk then .ok (v, st1) else .error (.unwrapWrongVariant, st1)
      | .ok (_, st1) => .error (.stuck "unwrap of non-error-union", st1)
    | .tryE a =>
      match evalE p fuel a st with
      | .error e => .error e
      | .ok (.some v, st1) => .ok (v, st1)
      | .ok (.nil, st1) => .error (.propagate .nil, st1)
      | .ok (.eu true v, st1) => .ok (v, st1)
      | .ok (.eu false v, st1) => .error (.propagate (.eu false v), st1)
      | .ok (_, st1) => .error (.stuck ".try on a non-sum value", st1)
    | .ite c a b =>
      match evalE p fuel c st with
      | .error e => .error e
      | .ok (.bool true, st1) => evalE p fuel a st1
      | .ok (.bool false, st1) => evalE p fuel b st1
      | .ok (_, st1) => .error (.stuck "if on non-bool", st1)
    | .addrOf a =>
      match toPlace? a with
      | none => .error (.stuck "address of a non-place", st)
      | some pl =>
        match resolve p fuel pl st with
        | .error e => .error e
        | .ok (c, st1) => .ok (.ptr c, st1)
    | .deref a =>
      match evalE p fuel a st with
      | .error e => .error e
      | .ok (.ptr c, st1) =>
        match loadCell st1 c with
        | some v => .ok (v, st1)
        | none => .error (.stuck "dereference of a pointer into a dead frame", st1)
      | .ok (_, st1) => .error (.stuck "dereference of a non-pointer", st1)
    | .sliceOf a =>
      match toPlace? a with
      | none => .error (.stuck "slice of a non-place", st)
      | some pl =>
        match resolve p fuel pl st with
        | .error e => .error e
        | .ok (c, st1) =>
          match loadCell st1 c with
          | some (.arr vs) => .ok (.slice c vs.length, st1)
          | _ => .error (.stuck "slice of a non-array", st1)
    | .len a =>
      match evalE p fuel a st with
      | .error e => .error e
      | .ok (.slice _ n, st1) => .ok (.int n, st1)
      | .ok (.arr vs, st1) => .ok (.int vs.length, st1)
      | .ok (_, st1) => .error (.stuck ".len of a non-array", st1)
    | .sliceToArr n a =>
      match evalE p fuel a st with
      | .error e => .error e
      | .ok (.slice c len, st1) =>
        if len ≠ n then .error (.stuck "slice to array of another length", st1) else
        match loadCell st1 c with
        | some (.arr vs) => .ok (.arr vs, st1)
        | _ => .error (.stuck "slice into a dead frame", st1)
      | .ok (_, st1) => .error (.stuck "slice-to-array cast of a non-slice", st1)
    | .clit n => .ok (.char n, st)
    | .fnRef f => .ok (.fn f, st)
    | .callV c args =>
      match evalE p fuel c st with
      | .error e => .error e
      | .ok (.fn f, st1) => evalE p fuel (.call f args) st1
      | .ok (_, st1) => .error (.stuck "call of a non-function value", st1)

def evalArgs (p : Program) : Nat → List Expr → St → Except (Fault × St) (List Val × St)
  | 0, _, st => .error (.outOfFuel, st)
  | _ + 1, [], st => .ok ([], st)
  | fuel + 1, e :: es, st =>
    match evalE p fuel e st with
    | .error e => .error e
    | .ok (v, st1) =>
      match evalArgs p fuel es st1 with
      | .error e => .error e
      | .ok (vs, st2) => .ok (v :: vs, st2)

/-- the cell a place denotes: index expressions are evaluated left to right and bounds-checked,
pointers and slices are followed. Nothing is read or written beyond that. -/
def resolve (p : Program) : Nat → Place → St → Except (Fault × St) (Cell × St)
  | 0, _, st => .error (.outOfFuel, st)
  | fuel + 1, pl, st =>
    match pl with
    | .var x => .ok (⟨st.fid, x, []⟩, st)
    | .deref e =>
      match evalE p fuel e st with
      | .error e => .error e
      | .ok (.ptr c, st1) => .ok (c, st1)
      | .ok (_, st1) => .error (.stuck "dereference of a non-pointer", st1)
    | .field q k =>
      match resolve p fuel q st with
      | .error e => .error e
      | .ok (c, st1) =>
        match loadCell st1 c with
        | some (.struct fs) =>
          if k < fs.length then .ok (c.push k, st1) else .error (.stuck "no such field", st1)
        | some _ => .error (.stuck "field of non-struct", st1)
        | none => .error (.stuck "field in a dead frame or an unbound variable", st1)
    | .index q i =>
      match resolve p fuel q st with
      | .error e => .error e
      | .ok (c, st1) =>
        match evalE p fuel i st1 with
        | .error e => .error e
        | .ok (.int k, st2) =>
          match indexCell c (loadCell st2 c) k with
          | .ok c' => .ok (c', st2)
          | .error flt => .error (flt, st2)
        | .ok (_, st2) => .error (.stuck "index is not an integer", st2)

/-- read a place -/
def readPlace (p : Program) : Nat → Place → St → Except (Fault × St) (Val × St)
  | 0, _, st => .error (.outOfFuel, st)
  | fuel + 1, pl, st =>
    match resolve p fuel pl st with
    | .error e => .error e
    | .ok (c, st1) =>
      match loadCell st1 c with
      | some v => .ok (v, st1)
      | none => .error (.stuck "read of a dead frame or an unbound variable", st1)

/-- a statement; a `.try` that met an error / nil inside it becomes a `return` of that value -/
def execS (p : Program) : Nat → Stmt → List Stmt → St → Except (Fault × St) (Sig × List Stmt × St)
  | 0, _, _, st => .error (.outOfFuel, st)
  | fuel + 1, s, regs, st =>
    match execSCore p fuel s regs st with
    | .error (.propagate v, st') => .ok (.ret v, regs, st')
    | r => r

/-- statements; `regs` = defers registered so far in the enclosing block activation -/
def execSCore (p : Program) : Nat → Stmt → List Stmt → St → Except (Fault × St) (Sig × List Stmt × St)
  | 0, _, _, st => .error (.outOfFuel, st)
  | fuel + 1, s, regs, st =>
    match s with
    | .letS x e =>
      match evalE p fuel e st with
      | .error e => .error e
      | .ok (v, st1) => .ok (.normal, regs, { st1 with env := setVar x v st1.env })
    | .assign pl e =>
      -- the destination cell is determined first (its index expressions are evaluated and
      -- bounds-checked), then the value is computed, then exactly that cell is replaced
      match resolve p fuel pl st with
      | .error e => .error e
      | .ok (c, st1) =>
        match evalE p fuel e st1 with
        | .error e => .error e
        | .ok (v, st2) =>
          match storeCell st2 c v with
          | some st3 => .ok (.normal, regs, st3)
          | none => .error (.stuck "store into a dead frame or an unbound variable", st2)
    | .opAssign op t pl e =>
      match resolve p fuel pl st with
      | .error e => .error e
      | .ok (c, st1) =>
        match loadCell st1 c with
        | none => .error (.stuck "read of a dead frame or an unbound variable", st1)
        | some cur =>
          match evalE p fuel e st1 with
          | .error e => .error e
          | .ok (v, st2) =>
            match cur, v with
            | .int a, .int b =>
              match binInt op t a b with
              | none => .error (.stuck "division by zero or shift out of range", st2)
              | some r =>
                match storeCell st2 c (.int r) with
                | some st3 => .ok (.normal, regs, st3)
                | none => .error (.stuck "store into a dead frame or an unbound variable", st2)
            | _, _ => .error (.stuck "compound assignment on non-ints", st2)
    | .print e =>
      match evalE p fuel e st with
      | .error e => .error e
      | .ok (v, st1) => .ok (.normal, regs, { st1 with out := showVal v :: st1.out })
    | .ifS c a b =>
      match evalE p fuel c st with
      | .error e => .error e
      | .ok (.bool true, st1) =>
        match execBlock p fuel a st1 with
        | .error e => .error e
        | .ok (sig, st2) => .ok (sig, regs, st2)
      | .ok (.bool false, st1) =>
        match execBlock p fuel b st1 with
        | .error e => .error e
        | .ok (sig, st2) => .ok (sig, regs, st2)
      | .ok (_, st1) => .error (.stuck "if on non-bool", st1)
    | .whileS l c body =>
      match evalE p fuel c st with
      | .error e => .error e
      | .ok (.bool false, st1) => .ok (.normal, regs, st1)
      | .ok (.bool true, st1) =>
        match execBlock p fuel body st1 with
        | .error e => .error e
        | .ok (sig, st2) =>
          match sig with
          | .normal => execS p fuel (.whileS l c body) regs st2
          | .cont l' => if l' = l then execS p fuel (.whileS l c body) regs st2 else .ok (sig, regs, st2)
          | .brk l' => if l' = l then .ok (.normal, regs, st2) else .ok (sig, regs, st2)
          | .ret _ => .ok (sig, regs, st2)
      | .ok (_, st1) => .error (.stuck "while on non-bool", st1)
    | .block label body =>
      match execBlock p fuel body st with
      | .error e => .error e
      | .ok (sig, st1) =>
        match sig, label with
        | .brk l, some l' => if l = l' then .ok (.normal, regs, st1) else .ok (sig, regs, st1)
        | _, _ => .ok (sig, regs, st1)
    | .brk l => .ok (.brk l, regs, st)
    | .cont l => .ok (.cont l, regs, st)
    | .ret none => .ok (.ret .void, regs, st)
    | .ret (some e) =>
      match evalE p fuel e st with
      | .error e => .error e
      | .ok (v, st1) => .ok (.ret v, regs, st1)
    | .deferS d => .ok (.normal, d :: regs, st)
    | .exprS e =>
      match evalE p fuel e st with
      | .error e => .error e
      | .ok (_, st1) => .ok (.normal, regs, st1)
    | .switchS scrut arg arms dflt =>
      match evalE p fuel scrut st with
      | .error e => .error e
      | .ok (v, st1) =>
        let sel : Option (Nat × Val) := match v with
          | .variant k pl => some (k, pl)
          | .nil => some (0, .nil)
          | .some pl => some (1, pl)
          | .eu false e => some (0, e)
          | .eu true o => some (1, o)
          | _ => none
        match sel with
        | none => .error (.stuck "switch on a non-sum value", st1)
        | some (k, pl) =>
          match arms.find? (fun a => a.1 == k), dflt with
          | some (_, body), _ =>
            let st2 := match arg with
              | some x => { st1 with env := setVar x pl st1.env }
              | none => st1
            match execBlock p fuel body st2 with
            | .error e => .error e
            | .ok (sig, st3) => .ok (sig, regs, st3)
          | none, some body =>
            let st2 := match arg with
              | some x => { st1 with env := setVar x v st1.env }
              | none => st1
            match execBlock p fuel body st2 with
            | .error e => .error e
            | .ok (sig, st3) => .ok (sig, regs, st3)
          | none, none => .error (.stuck "switch does not cover the variant", st1)

def execStmts (p : Program) : Nat → List Stmt → List Stmt → St → Except (Fault × St) (Sig × List Stmt × St)
  | 0, _, _, st => .error (.outOfFuel, st)
  | _ + 1, [], regs, st => .ok (.normal, regs, st)
  | fuel + 1, s :: rest, regs, st =>
    match execS p fuel s regs st with
    | .error e => .error e
    | .ok (.normal, regs', st') => execStmts p fuel rest regs' st'
    | .ok (sig, regs', st') => .ok (sig, regs', st')

/-- run deferred statements, newest first -/
def runDefers (p : Program) : Nat → List Stmt → St → Except (Fault × St) (Unit × St)
  | 0, _, st => .error (.outOfFuel, st)
  | _ + 1, [], st => .ok ((), st)
  | fuel + 1, d :: rest, st =>
    match execS p fuel d [] st with
    | .error e => .error e
    | .ok (_, _, st') => runDefers p fuel rest st'

/-- a block activation: body, then — however it was left — its defers, newest first -/
def execBlock (p : Program) : Nat → List Stmt → St → Except (Fault × St) (Sig × St)
  | 0, _, st => .error (.outOfFuel, st)
  | fuel + 1, body, st =>
    match execStmts p fuel body [] st with
    | .error e => .error e
    | .ok (sig, regs, st') =>
      match runDefers p fuel regs st' with
      | .error e => .error e
      | .ok (_, st'') => .ok (sig, st'')
end

/-- **exit status rule**: main's integer result cast to `usize`, of which the OS keeps the
low 8 bits; 0 for a `void` main; the defined runtime faults print a message and exit 1. -/
def exitStatus : Val → Nat
  | .int z => (wrap false 64 z).toNat % 256
  | _ => 0

/-- the initial state: `main` runs in frame 0 -/
def St.init : St := { fid := 0, env := [], stack := [], next := 1, out := [] }

def run (p : Program) (fuel : Nat) : Outcome :=
  match p.fns[0]? with
  | none => ⟨[], "stuck=no main"⟩
  | some main =>
    match execBlock p fuel main.body St.init with
    | .ok (sig, st) =>
      let v := match sig with
        | .ret v => v
        | _ => Val.void
      ⟨st.out.reverse, s!"exit={exitStatus v}"⟩
    | .error (.indexOutOfBounds, st) => ⟨st.out.reverse, "fault=index"⟩
    | .error (.unwrapWrongVariant, st) => ⟨st.out.reverse, "fault=unwrap"⟩
    | .error (.outOfFuel, st) => ⟨st.out.reverse, "out-of-fuel"⟩
    | .error (.stuck why, st) => ⟨st.out.reverse, s!"stuck={why}"⟩
    | .error (.propagate _, st) => ⟨st.out.reverse, "stuck=.try escaped main"⟩

end CapyV.CoreMem
