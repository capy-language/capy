import CapyV.Model.ImportsCli
import CapyV.Proofs.ImportsPaths
import CapyV.Proofs.ImportsWorklist
/-!
What `lowerImport` and `lowerMod` accept, and that every accepted target is a cleaned absolute
path inside the working or the module directory.
-/
namespace CapyV.Imports

theorem lowerImport_ok_iff (env : Env) (importer : Path) (arg : List Char) (p : Path) :
    lowerImport env importer arg = .ok p ↔
      endsCapy (fixSep arg) = true ∧ p = importTarget env importer arg ∧
      env.fs p = some .file ∧ (isSubDirOf p env.modDir = true ∨ isSubDirOf p env.cwd = true) := by
  unfold lowerImport isFile
  by_cases h1 : endsCapy (fixSep arg) = true
  · by_cases h2 : env.fs (importTarget env importer arg) = some Kind.file
    · by_cases h3 : isSubDirOf (importTarget env importer arg) env.modDir = true
      · simp [h1, h2, h3]
        constructor
        · intro h
          subst h
          simp [h2, h3]
        · intro h; exact h.1.symm
      · by_cases h4 : isSubDirOf (importTarget env importer arg) env.cwd = true
        · simp [h1, h2, h3, h4]
          constructor
          · intro h
            subst h
            simp [h2, h4]
          · intro h; exact h.1.symm
        · simp [h1, h2, h3, h4]
          intro h
          subst h
          simp [h3, h4]
    · simp [h1, h2]
      intro h
      subst h
      simp [h2]
  · simp [h1]

/-- the target as a walk: an import argument is read from the importing file's directory -/
def walkFrom (start : List (List Char)) (p : Path) : List (List Char) := p.foldl walkStep start

theorem importTarget_rel (env : Env) (importer : Path) (arg : List Char)
    (hi : IsCleanAbs importer) (ha : hasRoot (fixSep arg) = false) :
    importTarget env importer arg =
      Comp.root :: (walkFrom (walk importer).dropLast (parse (fixSep arg))).map Comp.normal := by
  have hrel := parse_rel _ ha
  have hp : Comp.root ∉ [Comp.parent] := by simp
  have habs := join_abs_left _ _ (join_abs_left _ _ hi.isAbs hp) hrel
  rw [importTarget, join_abs_right hi.isAbs, clean_abs_eq_walk _ habs, join_rel hrel,
    join_rel hp]
  simp [walk, walkFrom, List.foldl_append, walkStep]

theorem importTarget_abs (env : Env) (importer : Path) (arg : List Char)
    (ha : hasRoot (fixSep arg) = true) :
    importTarget env importer arg = Comp.root :: (walk (parse (fixSep arg))).map Comp.normal := by
  unfold importTarget
  have h := parse_abs _ ha
  rw [join_abs_right h, clean_abs_eq_walk _ h]

theorem importTarget_isCleanAbs (env : Env) (importer : Path) (arg : List Char)
    (hi : IsCleanAbs importer) : IsCleanAbs (importTarget env importer arg) := by
  cases ha : hasRoot (fixSep arg)
  · rw [importTarget_rel env importer arg hi ha]; exact ⟨_, rfl⟩
  · rw [importTarget_abs env importer arg ha]; exact ⟨_, rfl⟩

theorem lowerMod_ok_iff (env : Env) (m : List Char) (p : Path) :
    lowerMod env m = .ok p ↔
      (fixSep m).all isAsciiAlnum = true ∧ env.fs (modFolder env m) = some .dir ∧
      env.fs (modTarget env m) = some .file ∧ p = modTarget env m := by
  unfold lowerMod isFile isDir
  by_cases h1 : (fixSep m).all isAsciiAlnum = true
  · by_cases h2 : env.fs (modFolder env m) = some Kind.dir
    · by_cases h3 : env.fs (modTarget env m) = some Kind.file
      · simp [h1, h2, h3]
        constructor <;> (intro h; exact h.symm)
      · simp [h1, h2, h3]
    · simp [h1, h2]
  · simp [h1]

theorem alnum_ne_sep_dot (c : Char) (h : isAsciiAlnum c = true) : c ≠ '\\' ∧ c ≠ '/' ∧ c ≠ '.' := by
  refine ⟨?_, ?_, ?_⟩ <;> (intro hc; subst hc; revert h; decide)

theorem fixSep_eq_of_alnum (m : List Char) (h : m.all isAsciiAlnum = true) : fixSep m = m := by
  induction m with
  | nil => rfl
  | cons c cs ih =>
    simp only [List.all_cons, Bool.and_eq_true] at h
    have := (alnum_ne_sep_dot c h.1).1
    simp [fixSep, this] at *
    exact ih h.2

theorem all_alnum_fixSep (m : List Char) :
    (fixSep m).all isAsciiAlnum = m.all isAsciiAlnum := by
  have : ∀ c, isAsciiAlnum (if c = '\\' then '/' else c) = isAsciiAlnum c := by
    intro c
    split
    · next h => subst h; decide
    · rfl
  simp [fixSep, List.all_map, Function.comp_def, this]

theorem splitSlash_no_slash (s : List Char) (h : '/' ∉ s) : splitSlash s = [s] := by
  induction s with
  | nil => rfl
  | cons c cs ih =>
    have hc : c ≠ '/' := by
      intro e
      subst e
      simp at h
    have hcs : '/' ∉ cs := by intro e; exact h (List.mem_cons_of_mem _ e)
    simp [splitSlash, hc, ih hcs]

theorem parse_alnum (m : List Char) (h : m.all isAsciiAlnum = true) :
    parse m = if m = [] then [] else [Comp.normal m] := by
  match m with
  | [] => rfl
  | c :: cs =>
    have hall : ∀ x ∈ c :: cs, isAsciiAlnum x = true := by simpa using h
    have hslash : '/' ∉ c :: cs := fun hm => (alnum_ne_sep_dot _ (hall _ hm)).2.1 rfl
    have hc1 : c ≠ '/' := (alnum_ne_sep_dot c (hall c (by simp))).2.1
    have hc2 : c ≠ '.' := (alnum_ne_sep_dot c (hall c (by simp))).2.2
    have hroot : hasRoot (c :: cs) = false := by
      unfold hasRoot; split
      · next heq => exact absurd (List.cons.inj heq).1 hc1
      · rfl
    have hcur : leadCur (c :: cs) = false := by
      unfold leadCur; split
      · next heq => exact absurd (List.cons.inj heq).1 hc2
      · next heq => exact absurd (List.cons.inj heq).1 hc2
      · rfl
    have hpiece : compOfPiece (c :: cs) = some (Comp.normal (c :: cs)) := by
      simp [compOfPiece, hc2]
    simp [parse, hroot, hcur, splitSlash_no_slash _ hslash, hpiece]

def srcName : List Char := ['s', 'r', 'c']

theorem modPaths (env : Env) (m : List Char) (h : m.all isAsciiAlnum = true)
    (hmd : IsCleanAbs env.modDir) :
    modFolder env m = env.modDir ++ parse m ++ [Comp.normal srcName] ∧
    modTarget env m = env.modDir ++ parse m ++ [Comp.normal srcName, Comp.normal modCapy] ∧
    IsCleanAbs (modTarget env m) := by
  have hrel : Comp.root ∉ parse m := by
    rw [parse_alnum m h]
    split <;> simp
  have hf : modFolder env m = env.modDir ++ parse m ++ [Comp.normal srcName] := by
    rw [modFolder, fixSep_eq_of_alnum m h, join_rel hrel, join_rel (by simp)]; rfl
  have hc : IsCleanAbs (env.modDir ++ parse m ++ [Comp.normal srcName, Comp.normal modCapy]) := by
    obtain ⟨names, hn⟩ := hmd
    rw [parse_alnum m h, hn]
    split
    · exact ⟨names ++ [srcName, modCapy], by simp⟩
    · exact ⟨names ++ [m, srcName, modCapy], by simp⟩
  have ht : modTarget env m
      = env.modDir ++ parse m ++ [Comp.normal srcName, Comp.normal modCapy] := by
    rw [modTarget, hf, join_rel (by simp), List.append_assoc _ [_] [_]]
    exact clean_of_isCleanAbs _ hc
  exact ⟨hf, ht, ht ▸ hc⟩

theorem modPaths_nonempty (env : Env) (m : List Char) (h : m.all isAsciiAlnum = true)
    (hne : m ≠ []) (hmd : IsCleanAbs env.modDir) :
    modFolder env m = env.modDir ++ [Comp.normal m, Comp.normal srcName] ∧
    modTarget env m = env.modDir ++ [Comp.normal m, Comp.normal srcName, Comp.normal modCapy] := by
  obtain ⟨e1, e2, _⟩ := modPaths env m h hmd
  rw [parse_alnum m h, if_neg hne, List.append_assoc] at e1 e2
  exact ⟨e1, e2⟩

theorem lower_ok_inside (env : Env) (importer : Path) (d : Directive) (p : Path)
    (hmd : IsCleanAbs env.modDir) (hi : IsCleanAbs importer)
    (h : lower env importer d = .ok p) :
    insideCwdOrMod env p = true ∧ IsCleanAbs p := by
  cases d with
  | imp a =>
    obtain ⟨_, rfl, _, hin⟩ := (lowerImport_ok_iff env importer a p).mp h
    refine ⟨?_, importTarget_isCleanAbs env importer a hi⟩
    unfold insideCwdOrMod
    rcases hin with h1 | h1 <;> simp [h1]
  | mod m =>
    obtain ⟨hal, _, _, rfl⟩ := (lowerMod_ok_iff env m p).mp h
    obtain ⟨_, ht, hc⟩ := modPaths env m (all_alnum_fixSep m ▸ hal) hmd
    have : isSubDirOf (modTarget env m) env.modDir = true :=
      isSubDirOf_iff_prefix.mpr ⟨_, (List.append_assoc ..).symm.trans ht.symm⟩
    exact ⟨by simp [insideCwdOrMod, this], hc⟩

theorem mem_importsOf (env : Env) (src : Path → List Directive) (f p : Path) :
    p ∈ importsOf env src f ↔ ∃ d ∈ src f, lower env f d = .ok p := by
  unfold importsOf
  rw [List.mem_eraseDups, List.mem_filterMap]
  constructor
  · rintro ⟨d, hd, h⟩
    refine ⟨d, hd, ?_⟩
    cases hl : lower env f d with
    | ok q =>
      rw [hl] at h
      simp [accepted] at h
      rw [h]
    | err e =>
      rw [hl] at h
      simp [accepted] at h
  · rintro ⟨d, hd, h⟩
    exact ⟨d, hd, by rw [h]; rfl⟩

end CapyV.Imports
