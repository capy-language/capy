import CapyV.Model.ExprCore
/-!
C24, one call at a time: each function of `Model/ExprCore.lean` unfolded on the token shapes the
printer produces. `Follow` (what may stand behind a printed subexpression) and `Good` (how one
begins) are the side conditions that decide the model's look-aheads.
-/
namespace CapyV.ExprCore
open CapyV.Generated.BP

-- table facts, re-checked against the regenerated table on every build
theorem binaryBp_kind (b : BinOp) : binaryBp b.kind = some (lbp b, rbp b) := by
  cases b <;> rfl

theorem rbp_eq (b : BinOp) : rbp b = lbp b + 1 := by
  cases b <;> rfl

theorem lbp_pos (b : BinOp) : 0 < lbp b := by
  cases b <;> decide

/-- where the loop of `parse_expr_bp` at minimum `j` stops: the end, a closer, a binary operator
of left binding power `< j` -/
def Follow (j : Nat) : List Tok → Prop
  | [] => True
  | .rparen :: _ => True
  | .rbrack :: _ => True
  | .comma :: _ => True
  | .bop b :: _ => lbp b < j
  | _ => False

/-- where `parse_post_operators` stops: never in front of a postfix starter -/
def FollowAny (rest : List Tok) : Prop := ∃ j, Follow j rest

theorem Follow.any {j : Nat} {rest} (h : Follow j rest) : FollowAny rest := ⟨j, h⟩

theorem Follow.mono {j j' : Nat} (h : j ≤ j') : ∀ {rest}, Follow j rest → Follow j' rest
  | [], _ => trivial
  | t :: _, hf => by
    cases t <;> simp [Follow] at hf ⊢
    omega

/-- first tokens of a printed expression -/
def starter : Tok → Bool
  | .ident _ | .int _ | .caret | .lparen | .bang => true
  | .bop .add | .bop .sub | .bop .xor => true
  | _ => false

/-- a printed expression: starts with a starter, and its second token is not a comma (which is
what the `[` arm of `parsePost` looks for: `at_ahead(2, Comma)`, an array literal with a type) -/
def Good (s : List Tok) : Prop :=
  ∃ x tl, s = x :: tl ∧ starter x = true ∧ (∀ tl', tl ≠ .comma :: tl')

theorem Good.append {s : List Tok} (hs : Good s) (r : List Tok) (hr : ∀ r', r ≠ .comma :: r') :
    Good (s ++ r) := by
  obtain ⟨x, tl, rfl, hx, htl⟩ := hs
  refine ⟨x, tl ++ r, rfl, hx, ?_⟩
  cases tl with
  | nil => exact hr
  | cons y ys => exact fun tl' h => htl ys (by rw [(List.cons.inj h).1])

theorem Good.cons {x : Tok} (hx : starter x = true) {s : List Tok} (hs : Good s) : Good (x :: s) := by
  obtain ⟨y, tl, rfl, hy, _⟩ := hs
  refine ⟨x, _, rfl, hx, ?_⟩
  intro tl' h'
  simp at h'
  obtain ⟨rfl, _⟩ := h'
  simp [starter] at hy

theorem good_parens {s : List Tok} (hs : Good s) : ∀ n, Good (parens n s)
  | 0 => hs
  | n + 1 => Good.cons rfl ((good_parens hs n).append _ (by simp))

theorem UnOp.tok_starter (u : UnOp) : starter u.tok = true := by cases u <;> rfl

theorem good_raw (d : Ctx → Tree → Nat) : (t : Tree) → Good (printRaw d t)
  | .ident n => ⟨_, [], rfl, rfl, by simp⟩
  | .int n => ⟨_, [], rfl, rfl, by simp⟩
  | .un u e => Good.cons u.tok_starter (good_parens (good_raw d e) _)
  | .ref true e => ⟨.caret, _, rfl, rfl, by simp⟩
  | .ref false e => Good.cons rfl (good_parens (good_raw d e) _)
  | .deref e | .try_ e | .field e _ => by
    simp only [printRaw]
    exact (good_parens (good_raw d e) _).append _ (by simp)
  | .bin _ e _ | .index e _ | .cast e _ | .call e _ => by
    simp only [printRaw, List.append_assoc]
    exact (good_parens (good_raw d e) _).append _ (by simp)

theorem good_at (d : Ctx → Tree → Nat) (n : Nat) (t : Tree) : Good (parens n (printRaw d t)) :=
  good_parens (good_raw d t) n

/-- what the model's look-aheads test: none of them fires on a printed expression -/
theorem Good.head {s} (hs : Good s) : ∃ x tl, s = x :: tl ∧ x ≠ .rparen ∧ x ≠ .mut ∧ x ≠ .equals ∧
    ∀ tl', tl ≠ .comma :: tl' := by
  obtain ⟨x, tl, rfl, hx, htl⟩ := hs
  refine ⟨x, tl, rfl, ?_, ?_, ?_, htl⟩
  all_goals
    intro h
    subst h
    cases hx

theorem starter_cases {x : Tok} (h : starter x = true) :
    (∃ n, x = .ident n) ∨ (∃ n, x = .int n) ∨ x = .caret ∨ x = .lparen ∨ (∃ u : UnOp, x = u.tok) := by
  cases x with
  | ident n => exact Or.inl ⟨n, rfl⟩
  | int n => exact Or.inr (Or.inl ⟨n, rfl⟩)
  | bop b =>
    cases b <;> simp [starter] at h
    · exact Or.inr (Or.inr (Or.inr (Or.inr ⟨.pos, rfl⟩)))
    · exact Or.inr (Or.inr (Or.inr (Or.inr ⟨.neg, rfl⟩)))
    · exact Or.inr (Or.inr (Or.inr (Or.inr ⟨.bnot, rfl⟩)))
  | bang => exact Or.inr (Or.inr (Or.inr (Or.inr ⟨.not, rfl⟩)))
  | caret => exact Or.inr (Or.inr (Or.inl rfl))
  | lparen => exact Or.inr (Or.inr (Or.inr (Or.inl rfl)))
  | _ => simp [starter] at h

theorem lhs_ident (f n r) : parseLhs (f + 1) (.ident n :: r) = some (.ident n, r) := by
  simp [parseLhs]

theorem lhs_int (f n r) : parseLhs (f + 1) (.int n :: r) = some (.int n, r) := by
  simp [parseLhs]

theorem lhs_paren {f r e r'} (h : parseBp f 0 r = some (e, .rparen :: r')) :
    parseLhs (f + 1) (.lparen :: r) = some (e, r') := by
  simp [parseLhs, startBp, h]

theorem lhs_un {f r e r'} (u : UnOp) (h : parseExprForPrefix f false r = some (e, r')) :
    parseLhs (f + 1) (u.tok :: r) = some (.un u e, r') := by
  cases u <;> simp [parseLhs, UnOp.tok, Tok.kind, BinOp.kind, isPrefix, Tok.unOp, prefixDisallowDot, h]

theorem lhs_refmut {f r e r'} (h : parseExprForPrefix f true r = some (e, r')) :
    parseLhs (f + 1) (.caret :: .mut :: r) = some (.ref true e, r') := by
  simp [parseLhs, refDisallowDot, h]

theorem lhs_ref {f s e r'} (hs : Good s) (r) (h : parseExprForPrefix f true (s ++ r) = some (e, r')) :
    parseLhs (f + 1) (.caret :: (s ++ r)) = some (.ref false e, r') := by
  obtain ⟨x, tl, rfl, -, hx, -, -⟩ := hs.head
  simp_all [parseLhs, refDisallowDot]

/-- `parse_lhs`, then `parse_post_operators` on what it returns: the body of
`parse_expr_for_prefix`, and the first steps of `parse_expr_bp`. Two fuels, because
`parse_expr_bp` reaches `parsePost` one call deeper (through `parseLoop`). `nd`, `ndot` are the
model's `noDeref`, `noDot`. -/
def lhsPost (f g : Nat) (nd ndot : Bool) (toks : List Tok) : PR :=
  (parseLhs f toks).bind fun p => parsePost g nd ndot p.1 p.2

theorem lhsPost_of_lhs {f g nd ndot toks b r} (h : parseLhs f toks = some (b, r)) :
    lhsPost f g nd ndot toks = parsePost g nd ndot b r := by
  simp [lhsPost, h]

theorem lhsPost_eq_some {f g nd ndot toks R} (h : lhsPost f g nd ndot toks = some R) :
    ∃ b r, parseLhs f toks = some (b, r) ∧ parsePost g nd ndot b r = some R := by
  simp only [lhsPost, Option.bind_eq_some_iff] at h
  obtain ⟨⟨b, r⟩, hl, hp⟩ := h
  exact ⟨b, r, hl, hp⟩

theorem parseExprForPrefix_eq_lhsPost (f ndot toks) : parseExprForPrefix (f + 1) ndot toks = lhsPost f f true ndot toks := by
  simp only [parseExprForPrefix, lhsPost, prefixDisallowDerefs]
  cases parseLhs f toks <;> rfl

theorem bp_step {f m toks lhs r} (h : parseLhs f toks = some (lhs, r)) :
    parseBp (f + 1) m toks = parseLoop f m lhs r := by
  simp [parseBp, h]

theorem post_stop {rest : List Tok} (h : FollowAny rest) (f nd ndot cm) :
    parsePost (f + 1) nd ndot cm rest = some (cm, rest) := by
  cases rest with
  | nil => simp [parsePost]
  | cons t r =>
    obtain ⟨j, h⟩ := h
    cases t <;> simp [Follow] at h <;> simp [parsePost]

theorem post_deref (f ndot cm r) :
    parsePost (f + 1) false ndot cm (.caret :: r) = parsePost f false ndot (.deref cm) r := by
  simp [parsePost]

theorem post_try (f nd ndot cm r) :
    parsePost (f + 1) nd ndot cm (.dot :: .try_ :: r) = parsePost f nd ndot (.try_ cm) r := by
  simp [parsePost]

theorem post_field (f nd ndot cm n r) :
    parsePost (f + 1) nd ndot cm (.dot :: .ident n :: r) = parsePost f nd ndot (.field cm n) r := by
  simp [parsePost]

theorem post_index {f nd ndot cm s r i r'} (hs : Good s)
    (h : parseBp f 0 (s ++ .rbrack :: r) = some (i, .rbrack :: r')) :
    parsePost (f + 1) nd ndot cm (.lbrack :: (s ++ .rbrack :: r)) = parsePost f nd ndot (.index cm i) r' := by
  obtain ⟨x, tl, rfl, -, -, -, htl⟩ := hs.head
  have : ∀ tl', tl ++ .rbrack :: r ≠ .comma :: tl' := by
    cases tl <;> simp_all
  simp_all [parsePost, startBp]

theorem post_cast {f nd cm s r v r'} (hs : Good s)
    (h : parseBp f 0 (s ++ r) = some (v, .rparen :: r')) :
    parsePost (f + 1) nd false cm (.dot :: .lparen :: (s ++ r)) = parsePost f nd false (.cast cm v) r' := by
  obtain ⟨x, tl, rfl, hx, -, -, -⟩ := hs.head
  simp_all [parsePost, startBp]

theorem post_call {f nd ndot cm r as r'} (h : parseArgs f r = some (as, r')) :
    parsePost (f + 1) nd ndot cm (.lparen :: r) = parsePost f nd ndot (.call cm as) r' := by
  simp [parsePost, h]

theorem args_nil (f r) : parseArgs (f + 1) (.rparen :: r) = some (.nil, r) := by
  simp [parseArgs]

theorem args_last {f s r a r'} (hs : Good s) (h : parseBp f 0 (s ++ r) = some (a, .rparen :: r')) :
    parseArgs (f + 1) (s ++ r) = some (.cons a .nil, r') := by
  obtain ⟨x, tl, rfl, hx, -, -, -⟩ := hs.head
  simp_all [parseArgs, startBp]

theorem args_more {f s r a r' as r''} (hs : Good s) (h : parseBp f 0 (s ++ r) = some (a, .comma :: r'))
    (h2 : parseArgs f r' = some (as, r'')) :
    parseArgs (f + 1) (s ++ r) = some (.cons a as, r'') := by
  obtain ⟨x, tl, rfl, hx, -, -, -⟩ := hs.head
  simp_all [parseArgs, startBp]

-- `f + 2` here and in `loop_step`: one unit for the loop, one for the `parsePost` it calls first
theorem loop_stop {m : Nat} {rest : List Tok} (h : Follow m rest) (f lhs) :
    parseLoop (f + 2) m lhs rest = some (lhs, rest) := by
  have hp := post_stop h.any f false false lhs
  cases rest with
  | nil => simp [parseLoop, loopDisallowDerefs, loopDisallowDot, hp]
  | cons t r =>
    cases t with
    | bop b =>
      simp only [Follow] at h
      rw [parseLoop]
      simp only [loopDisallowDerefs, loopDisallowDot, hp, Tok.kind, binaryBp_kind b]
      split <;> simp [h]
    | rparen | rbrack | comma =>
      simp [parseLoop, loopDisallowDerefs, loopDisallowDot, hp, Tok.kind, quickAssign, binaryBp]
    | _ => simp [Follow] at h

theorem loop_step {m : Nat} (b : BinOp) (hb : m ≤ lbp b) {f lhs s r rhs r'} (hs : Good s)
    (h : parseBp (f + 1) (rbp b) (s ++ r) = some (rhs, r')) :
    parseLoop (f + 2) m lhs (.bop b :: (s ++ r)) = parseLoop (f + 1) m (.bin b lhs rhs) r' := by
  have hp : parsePost (f + 1) false false lhs (.bop b :: (s ++ r)) = some (lhs, .bop b :: (s ++ r)) :=
    post_stop ⟨lbp b + 1, by simp [Follow]⟩ f false false lhs
  obtain ⟨x, tl, rfl, -, -, hx, -⟩ := hs.head
  simp only [List.cons_append] at h hp ⊢
  rw [parseLoop]
  simp only [loopDisallowDerefs, loopDisallowDot, hp, Tok.kind, binaryBp_kind b]
  have : ¬ lbp b < m := by omega
  simp [this, h, hx]

end CapyV.ExprCore
