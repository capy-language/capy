import CapyV.Model.Mangle
/-!
# Lemmas about the mangling model (C27)

`mangle e` is `encodeParts` of the file parts followed by the final parts (`mangle_eq`).
Each layer of that encoding comes with a function that reads it back: `ofCode` for a kind
code, `ofDigits` for decimal numbers, `readLen` for the length prefix of a chunk, `fileOf` for
the file parts of a well-formed file, `readFinals` for the final parts, `shapeOfKinds` for the
entity's shape.
What is injective is so because it has a left inverse; only the step from a payload back to
its text needs the guard (`partGood`), and is stated as uniqueness.
A symbol is cut in two twice, each time by `append_split_unique`: the codes from the body
(`headerByte`, in `encodeParts_unique`), then the file parts from the final parts (`isFileKind`,
in `mangle_unique`).
-/
namespace CapyV.Mangle

theorem natDigits_ind {P : Nat → List Nat → Prop} (lt : ∀ n, n < 10 → P n [48 + n])
    (ge : ∀ n ds, 10 ≤ n → P (n / 10) ds → P n (ds ++ [48 + n % 10])) (n : Nat) :
    P n (natDigits n) := by
  have : ∀ f n, n < f → P n (natDigitsF f n) := by
    intro f
    induction f with
    | zero => intro n h; omega
    | succ f ih =>
      intro n h
      unfold natDigitsF
      split
      · exact lt n ‹_›
      · exact ge n _ (by omega) (ih _ (by omega))
  exact this _ n (by omega)

theorem natDigitsF_eq (f n : Nat) : n < f → natDigitsF f n = natDigits n := by
  induction n using natDigits_ind generalizing f with
  | lt n h =>
    intro hf
    cases f <;> simp_all [natDigitsF]
  | ge n ds h ih =>
    intro hf
    cases f with
    | zero => omega
    | succ f => rw [natDigitsF, if_neg (by omega), ih f (by omega)]

theorem natDigits_lt10 (n : Nat) (h : n < 10) : natDigits n = [48 + n] := by
  simp [natDigits, natDigitsF, h]

theorem natDigits_ge10 (n : Nat) (h : 10 ≤ n) :
    natDigits n = natDigits (n / 10) ++ [48 + n % 10] := by
  rw [natDigits, natDigitsF, if_neg (by omega), natDigitsF_eq _ _ (by omega)]

theorem natDigits_all_digits (n : Nat) : ∀ b ∈ natDigits n, isDigit b = true := by
  induction n using natDigits_ind with
  | lt n h => simp [isDigit]; omega
  | ge n ds h ih =>
    intro b hb
    rcases List.mem_append.mp hb with hb | hb
    · exact ih b hb
    · simp at hb
      subst hb
      simp [isDigit]; omega

theorem natDigits_head (n : Nat) : ∃ d rest, natDigits n = d :: rest ∧ isDigit d = true ∧
    (d = 48 → n = 0) := by
  induction n using natDigits_ind with
  | lt n h =>
    refine ⟨48 + n, [], rfl, ?_, by omega⟩
    simp [isDigit]
    omega
  | ge n ds h ih =>
    obtain ⟨d, rest, rfl, hd, hz⟩ := ih
    exact ⟨d, rest ++ [48 + n % 10], rfl, hd, fun h0 => by have := hz h0; omega⟩

theorem startsWithDigit_natDigits (n : Nat) : startsWithDigit (natDigits n) = true := by
  obtain ⟨d, rest, he, hd, _⟩ := natDigits_head n
  rw [he]; exact hd

/-- the number a list of ASCII digits denotes -/
def ofDigits (ds : List Nat) : Nat := ds.foldl (fun a d => 10 * a + (d - 48)) 0

theorem ofDigits_natDigits (n : Nat) : ofDigits (natDigits n) = n := by
  induction n using natDigits_ind with
  | lt n h => simp [ofDigits]
  | ge n ds h ih =>
    simp only [ofDigits, List.foldl_append, List.foldl_cons, List.foldl_nil] at ih ⊢
    omega

theorem takeWhile_append_stop {α : Type} (p : α → Bool) (xs r : List α)
    (hx : ∀ x ∈ xs, p x = true) (hr : ∀ h, r.head? = some h → p h = false) :
    (xs ++ r).takeWhile p = xs := by
  rw [List.takeWhile_append_of_pos hx]
  cases r with
  | nil => simp
  | cons h t => simp [hr h rfl]

theorem append_split_unique {α : Type} (p : α → Bool) {xs ys r₁ r₂ : List α}
    (hx : ∀ x ∈ xs, p x = true) (hy : ∀ y ∈ ys, p y = true)
    (h₁ : ∀ h, r₁.head? = some h → p h = false) (h₂ : ∀ h, r₂.head? = some h → p h = false)
    (h : xs ++ r₁ = ys ++ r₂) : xs = ys ∧ r₁ = r₂ := by
  obtain rfl : xs = ys := by
    rw [← takeWhile_append_stop p xs r₁ hx h₁, h, takeWhile_append_stop p ys r₂ hy h₂]
  exact ⟨rfl, List.append_cancel_left h⟩

/-- what follows the length prefix of a part -/
def payload (p : Part) : List Nat :=
  if startsWithDigit p.2 then toAsciiLower p.1.code :: p.2 else p.2

theorem addPart_eq (k : Kind) (t : List Nat) :
    addPart k t = natDigits (payload (k, t)).length ++ payload (k, t) := by
  unfold addPart payload
  by_cases h : startsWithDigit t <;> simp [h]

/-- what `createMangledForFile` writes for the list of all its parts (`createMangledForFile_eq`) -/
def encodeParts (ps : List Part) : List Nat :=
  ps.map (fun p => p.1.code) ++ ps.flatMap (fun p => addPart p.1 p.2) ++ [E]

/-- any byte but a digit or `E`: every kind code is one, and the body after the codes starts
with a digit or is the final `E` -/
def headerByte (b : Nat) : Bool := !isDigit b && b != E

theorem code_headerByte {k : Kind} : headerByte k.code = true := by
  cases k <;> rfl

/-- left inverse of `Kind.code`; arbitrary off the seven codes -/
def ofCode : Nat → Kind
  | 77 => .module
  | 70 => .fileOrFolder
  | 78 => .name
  | 71 => .genericId
  | 76 => .lambda
  | 90 => .comptime
  | _ => .internalData

theorem ofCode_code (k : Kind) : ofCode k.code = k := by
  cases k <;> rfl

theorem code_inj (k k' : Kind) (h : k.code = k'.code) : k = k' := by
  rw [← ofCode_code k, h, ofCode_code]

theorem lower_code_not_digit (k : Kind) : isDigit (toAsciiLower k.code) = false := by
  cases k <;> decide

theorem payload_head (p : Part) : startsWithDigit (payload p) = false := by
  unfold payload
  split
  · exact lower_code_not_digit p.1
  · exact Bool.eq_false_iff.2 ‹_›

/-- reads the length prefix of a chunk: length `0` is written `0`, and no other length starts
with that digit -/
def readLen (s : List Nat) : Nat :=
  if s.head? = some 48 then 0 else ofDigits (s.takeWhile isDigit)

theorem readLen_chunk (p r : List Nat) (hp : startsWithDigit p = false) :
    readLen (natDigits p.length ++ p ++ r) = p.length := by
  obtain ⟨d, rest, he, _, hz⟩ := natDigits_head p.length
  cases p with
  | nil => rfl
  | cons a p' =>
    have hd : d ≠ 48 := fun h => by simpa using hz h
    have : (natDigits (a :: p').length ++ (a :: p' ++ r)).takeWhile isDigit
        = natDigits (a :: p').length :=
      takeWhile_append_stop _ _ _ (natDigits_all_digits _) (by simpa [startsWithDigit] using hp)
    rw [readLen, List.append_assoc, this, ofDigits_natDigits, he]
    simp [hd]

theorem chunk_unique {p q r₁ r₂ : List Nat} (hp : startsWithDigit p = false)
    (hq : startsWithDigit q = false)
    (h : natDigits p.length ++ p ++ r₁ = natDigits q.length ++ q ++ r₂) :
    p = q ∧ r₁ = r₂ := by
  have hl : p.length = q.length := by
    rw [← readLen_chunk p r₁ hp, h, readLen_chunk q r₂ hq]
  rw [hl, List.append_assoc, List.append_assoc] at h
  exact List.append_inj (List.append_cancel_left h) hl

theorem body_unique : ∀ (ps qs : List Part) (r₁ r₂ : List Nat), ps.length = qs.length →
    ps.flatMap (fun p => addPart p.1 p.2) ++ r₁ = qs.flatMap (fun p => addPart p.1 p.2) ++ r₂ →
    ps.map payload = qs.map payload ∧ r₁ = r₂
  | [], [], _, _, _, h => ⟨rfl, by simpa using h⟩
  | p :: ps, q :: qs, r₁, r₂, hl, h => by
    have h' : natDigits (payload p).length ++ payload p ++
          (ps.flatMap (fun p => addPart p.1 p.2) ++ r₁)
        = natDigits (payload q).length ++ payload q ++
          (qs.flatMap (fun p => addPart p.1 p.2) ++ r₂) := by
      simpa [List.append_assoc, addPart_eq] using h
    have hc := chunk_unique (payload_head p) (payload_head q) h'
    have := body_unique ps qs r₁ r₂ (by simpa using hl) hc.2
    exact ⟨by simp [hc.1, this.1], this.2⟩

theorem body_head (ps : List Part) : ∀ h,
    (ps.flatMap (fun p => addPart p.1 p.2) ++ [E]).head? = some h → headerByte h = false := by
  intro h hh
  cases ps with
  | nil =>
    simp at hh
    subst hh
    rfl
  | cons p ps =>
    obtain ⟨d, rest, he, hd, _⟩ := natDigits_head (payload p).length
    simp [addPart_eq, he] at hh
    subst hh
    simp [headerByte, hd]

/-- **Unique readability.** The string determines the kind of every part and what
follows its length prefix. -/
theorem encodeParts_unique (ps qs : List Part) (h : encodeParts ps = encodeParts qs) :
    ps.map (·.1) = qs.map (·.1) ∧ ps.map payload = qs.map payload := by
  unfold encodeParts at h
  rw [List.append_assoc, List.append_assoc] at h
  have hcodes : ∀ ps : List Part, ∀ x ∈ ps.map (fun p => p.1.code), headerByte x = true := by
    intro ps x hx
    obtain ⟨a, _, rfl⟩ := List.mem_map.mp hx
    exact code_headerByte
  have hs := append_split_unique headerByte (hcodes ps) (hcodes qs)
    (body_head ps) (body_head qs) h
  have hk : ps.map (·.1) = qs.map (·.1) :=
    (List.map_inj_right code_inj).mp (by simpa [Function.comp_def] using hs.1)
  have hl : ps.length = qs.length := by simpa using congrArg List.length hk
  exact ⟨hk, (body_unique ps qs _ _ hl hs.2).1⟩

theorem encodeParts_head (p : Part) (ps : List Part) :
    (encodeParts (p :: ps)).head? = some p.1.code := by
  simp [encodeParts]

/-- the discipline under which the payload determines the text: names are never
digit-initial, the other kinds never look like their own digit escape -/
def partGood (p : Part) : Bool :=
  if p.1 = .name ∨ p.1 = .internalData then !startsWithDigit p.2 else !looksEscaped p.1 p.2

theorem startsWithDigit_cons (b : Nat) (t : List Nat) : startsWithDigit (b :: t) = isDigit b := rfl

theorem payload_ne (k : Kind) (t t' : List Nat) (hd : startsWithDigit t = true)
    (hd' : startsWithDigit t' = false) (hg : partGood (k, t) = true)
    (hg' : partGood (k, t') = true) : payload (k, t) ≠ payload (k, t') := by
  simp only [payload, hd, hd', if_true]
  rintro rfl
  unfold partGood at hg hg'
  split at hg
  case isTrue =>
    -- a name or data text must not start with a digit, and `t` does
    simp [hd] at hg
  case isFalse hk =>
    -- for the other kinds `t'`, the code letter before a digit, looks escaped
    match t, hd with
    | b :: _, hb =>
      have hb : isDigit b = true := hb
      simp [hk, looksEscaped, hb] at hg'

theorem payload_inj (k : Kind) (t t' : List Nat) (hg : partGood (k, t) = true)
    (hg' : partGood (k, t') = true) (h : payload (k, t) = payload (k, t')) : t = t' := by
  cases hd : startsWithDigit t <;> cases hd' : startsWithDigit t'
  · simpa [payload, hd, hd'] using h
  · exact absurd h.symm (payload_ne k t' t hd' hd hg' hg)
  · exact absurd h (payload_ne k t t' hd hd' hg hg')
  · simpa [payload, hd, hd'] using h

theorem parts_eq_of_good : ∀ (ps qs : List Part), (∀ p ∈ ps, partGood p = true) →
    (∀ q ∈ qs, partGood q = true) → ps.map (·.1) = qs.map (·.1) →
    ps.map payload = qs.map payload → ps = qs
  | [], [], _, _, _, _ => rfl
  | (k, t) :: ps, (k', t') :: qs, hp, hq, hk, hpl => by
    simp only [List.map_cons, List.cons.injEq] at hk hpl
    obtain rfl : k = k' := hk.1
    obtain rfl := payload_inj k t t' (hp _ (by simp)) (hq _ (by simp)) hpl.1
    rw [parts_eq_of_good ps qs (fun a ha => hp a (by simp [ha])) (fun a ha => hq a (by simp [ha]))
      hk.2 hpl.2]

theorem looksEscaped_of_startsWithDigit (k : Kind) (t : List Nat)
    (h : startsWithDigit t = true) : looksEscaped k t = false := by
  match t with
  | [d] => rfl
  | d :: _ :: _ =>
    have : d ≠ toAsciiLower k.code := fun e => by
      rw [startsWithDigit_cons, e, lower_code_not_digit] at h; cases h
    simp [looksEscaped, this]

theorem partGood_digits {k : Kind} {n : Nat} (hk : k ≠ .name ∧ k ≠ .internalData) :
    partGood (k, natDigits n) = true := by
  simp [partGood, hk, looksEscaped_of_startsWithDigit k _ (startsWithDigit_natDigits n)]

/-- the parts `create_mangled_for_file` makes of the file's components: the module name, if any,
then every folder and the file -/
def fileParts (c : Components) : List Part :=
  (match c.modName with
    | some m => [(Kind.module, m)]
    | none => []) ++ c.subParts.map (fun s => (Kind.fileOrFolder, s))

theorem createMangledForFile_eq (f : FileD) (finals : List Part) :
    createMangledForFile f finals =
      (getComponents f).map (fun c => encodeParts (fileParts c ++ finals)) := by
  unfold createMangledForFile
  cases hc : getComponents f with
  | none => rfl
  | some c =>
    obtain ⟨mn, sp⟩ := c
    cases mn <;>
      simp [encodeParts, fileParts, List.flatMap_append, List.flatMap_map, Function.comp_def]

def basePart : Base → Part
  | .global n => (Kind.name, n)
  | .lambda i _ => (Kind.lambda, natDigits i)

def extraParts : Extra → List Part
  | .code => []
  | .comptime i => [(Kind.comptime, natDigits i)]
  | .comptimeData i d => [(Kind.comptime, natDigits i), (Kind.internalData, d)]

/-- the `final_parts` the `Mangle` impls hand to `create_mangled_for_file`: base (a bound lambda
as its global), generic id, block -/
def finalParts (e : Entity) : List Part :=
  basePart e.base.resolve :: (genericParts e.generic ++ extraParts e.extra)

theorem mangle_eq (e : Entity) :
    mangle e = (getComponents e.file).map (fun c => encodeParts (fileParts c ++ finalParts e)) := by
  obtain ⟨file, base, generic, extra⟩ := e
  cases extra <;> cases base with
  | global n =>
    simp [mangle, mangledForConcrete, mangledForNaive, mangledForNaiveGlobal,
      createMangledForFile_eq, finalParts, basePart, extraParts, Base.resolve]
  | lambda i b =>
    cases b <;>
    simp [mangle, mangledForConcrete, mangledForNaive, mangledForNaiveLambda,
      mangledForNaiveGlobal, createMangledForFile_eq, finalParts, basePart, extraParts,
      Base.resolve]

theorem Base.resolve_idem (b : Base) : b.resolve.resolve = b.resolve := by
  cases b with
  | global n => rfl
  | lambda i b => cases b <;> rfl

theorem mangle_resolve (e : Entity) : mangle e.resolve = mangle e := by
  rw [mangle_eq, mangle_eq]
  simp [finalParts, Entity.resolve, Base.resolve_idem]

/-- `M` or `F`: the kinds of file parts; the first final part has kind `N` or `L` -/
def isFileKind (k : Kind) : Bool := k = .module || k = .fileOrFolder

theorem fileParts_kinds (c : Components) : ∀ k ∈ (fileParts c).map (·.1), isFileKind k = true := by
  obtain ⟨mn, sp⟩ := c
  cases mn <;> simp [fileParts, isFileKind]

theorem finalParts_head (e : Entity) :
    ∀ k, ((finalParts e).map (·.1)).head? = some k → isFileKind k = false := by
  intro k hk
  simp only [finalParts, List.map_cons, List.head?_cons, Option.some.injEq] at hk
  subst hk
  cases e.base.resolve <;> rfl

theorem components_of_mangle {e : Entity} (hs : (mangle e).isSome) :
    ∃ c, getComponents e.file = some c := by
  rw [mangle_eq, Option.isSome_map] at hs
  exact Option.isSome_iff_exists.1 hs

theorem mangle_unique {a b : Entity} {ca cb : Components} (hca : getComponents a.file = some ca)
    (hcb : getComponents b.file = some cb) (h : mangle a = mangle b) :
    ((fileParts ca).map (·.1) = (fileParts cb).map (·.1) ∧
      (fileParts ca).map payload = (fileParts cb).map payload) ∧
    (finalParts a).map (·.1) = (finalParts b).map (·.1) ∧
      (finalParts a).map payload = (finalParts b).map payload := by
  rw [mangle_eq, mangle_eq, hca, hcb] at h
  obtain ⟨hk, hp⟩ := encodeParts_unique _ _ (Option.some.inj h)
  rw [List.map_append, List.map_append] at hk hp
  obtain ⟨hfk, hnk⟩ := append_split_unique isFileKind (fileParts_kinds ca) (fileParts_kinds cb)
    (finalParts_head a) (finalParts_head b) hk
  obtain ⟨hfp, hnp⟩ := List.append_inj hp (by simpa using congrArg List.length hfk)
  exact ⟨⟨hfk, hfp⟩, hnk, hnp⟩

theorem code_upper (k : Kind) : 65 ≤ k.code ∧ k.code ≤ 90 := by
  cases k <;> decide

/-- Every symbol starts with the code of its first part (`M F N G L Z I`). -/
theorem mangle_head_is_code (e : Entity) (s : List Nat) (h : mangle e = some s) :
    ∃ k : Kind, s.head? = some k.code := by
  rw [mangle_eq] at h
  cases hc : getComponents e.file with
  | none => simp [hc] at h
  | some c =>
    simp [hc] at h
    subst h
    cases hp : fileParts c ++ finalParts e with
    | nil => simp [finalParts] at hp
    | cons p ps => exact ⟨p.1, encodeParts_head p ps⟩

theorem replaceDots_dotless (c : List Nat) (h : dotless c = true) : replaceDots c = c := by
  unfold replaceDots
  induction c with
  | nil => rfl
  | cons b c ih =>
    simp [dotless, hasDot] at h ih
    simp [h.1]
    exact ih h.2

theorem xform_dotless (c : List Nat) (h : dotless c = true) : xformComponent c = c := by
  unfold xformComponent
  simp [dotless] at h
  simp [h]

theorem stripSuffixCapy_some (c stem : List Nat) (h : stripSuffixCapy c = some stem) :
    c = stem ++ dotCapy := by
  unfold stripSuffixCapy at h
  split at h
  · rename_i hc
    simp at h
    rw [← h, ← hc.2]
    exact (List.take_append_drop _ c).symm
  · simp at h

theorem xform_capyFile (c : List Nat) (h : isCapyFile c = true) :
    ∃ stem, c = stem ++ dotCapy ∧ xformComponent c = stem := by
  unfold isCapyFile at h
  cases hs : stripSuffixCapy c with
  | none => simp [hs] at h
  | some stem =>
    simp [hs] at h
    have hc := stripSuffixCapy_some c stem hs
    refine ⟨stem, hc, ?_⟩
    unfold xformComponent
    have : hasDot c = true := by simp [hc, hasDot, dotCapy, DOT]
    simp [this, hs, replaceDots_dotless stem h]

/-- undoes `xformComponent` along a well-shaped path: only the file name was changed -/
def restore : List (List Nat) → List (List Nat)
  | [] => []
  | [s] => [s ++ dotCapy]
  | d :: rest => d :: restore rest

theorem restore_xform : ∀ cs, compsShapeOK cs = true → restore (cs.map xformComponent) = cs
  | [], h => by simp [compsShapeOK] at h
  | [c], h => by
    obtain ⟨s, hs, hx⟩ := xform_capyFile c (by simpa [compsShapeOK] using h)
    simp [restore, hx, ← hs]
  | c :: c' :: cs, h => by
    simp only [compsShapeOK, Bool.and_eq_true] at h
    have := restore_xform (c' :: cs) h.2
    simp only [List.map_cons] at this ⊢
    rw [restore, this, xform_dotless c h.1]
    simp

theorem getComponents_cwd (f : FileD) (hr : f.root = .cwd) (hs : ¬ f.comps[1]? = some SRC) :
    getComponents f = some { modName := none, subParts := f.comps.map xformComponent } := by
  unfold getComponents
  simp [hr, hs]

theorem getComponents_mod (f : FileD) (m : List Nat) (rest : List (List Nat))
    (hr : f.root = .mod) (hc : f.comps = m :: SRC :: rest) :
    getComponents f =
      some { modName := some (xformComponent m), subParts := rest.map xformComponent } := by
  unfold getComponents
  simp [hr, hc]

theorem getComponents_isSome (f : FileD) (h : f.root ≠ .outside) : (getComponents f).isSome := by
  unfold getComponents
  cases hr : f.root <;> simp_all

/-- reads a well-formed file back from its parts: a module file starts with its `M` part,
and the skipped `src` is put back -/
def fileOf : List Part → FileD
  | (.module, m) :: ps => ⟨.mod, m :: SRC :: restore (ps.map (·.2))⟩
  | ps => ⟨.cwd, restore (ps.map (·.2))⟩

theorem fileWF_parts (f : FileD) (h : fileWF f = true) :
    ∃ c, getComponents f = some c ∧ (∀ p ∈ fileParts c, partGood p = true) ∧
      fileOf (fileParts c) = f := by
  obtain ⟨r, cs⟩ := f
  unfold fileWF at h
  cases r with
  | outside => simp at h
  | cwd =>
    simp only [Bool.and_eq_true, Bool.not_eq_true', decide_eq_false_iff_not] at h
    obtain ⟨⟨hshape, hsrc⟩, hesc⟩ := h
    refine ⟨_, getComponents_cwd _ rfl hsrc, ?_, ?_⟩
    · intro p hp
      simp [fileParts] at hp
      obtain ⟨x, hx, rfl⟩ := hp
      simpa [partGood] using List.all_eq_true.mp hesc x hx
    · cases cs with
      | nil => simp [compsShapeOK] at hshape
      | cons x xs =>
        simp only [fileParts, List.map_cons, List.nil_append, fileOf, List.map_map]
        simpa [Function.comp_def] using restore_xform _ hshape
  | mod =>
    simp only [Bool.and_eq_true, decide_eq_true_eq] at h
    obtain ⟨⟨hshape, hsrc⟩, hesc⟩ := h
    -- `[]` and `[m]` have no second component, which `hsrc` asks for
    match cs, hshape, hsrc, hesc with
    | [m, s], hshape, hsrc, _ =>
      -- `src` is not a `.capy` file
      obtain rfl : s = SRC := by simpa using hsrc
      simp [compsShapeOK, isCapyFile, stripSuffixCapy, SRC] at hshape
    | m :: s :: x :: rest, hshape, hsrc, hesc =>
      obtain rfl : s = SRC := by simpa using hsrc
      simp only [compsShapeOK, Bool.and_eq_true] at hshape
      simp only [Bool.and_eq_true, Bool.not_eq_true'] at hesc
      generalize x :: rest = tl at hshape hesc ⊢
      refine ⟨_, getComponents_mod _ m tl rfl rfl, ?_, ?_⟩
      · intro p hp
        simp [fileParts] at hp
        rcases hp with rfl | ⟨y, hy, rfl⟩
        · simpa [partGood] using hesc.1
        · simpa [partGood] using List.all_eq_true.mp hesc.2 y hy
      · simp only [fileParts, List.singleton_append, fileOf, List.map_map,
          xform_dotless m hshape.1]
        simpa [Function.comp_def] using restore_xform _ hshape.2.2

/-- reads the parts after the generic id back, by their number alone -/
def readExtra : List Part → Extra
  | [(_, i)] => .comptime (ofDigits i)
  | [(_, i), (_, d)] => .comptimeData (ofDigits i) d
  | _ => .code

/-- left inverse of `finalParts` up to `Base.resolve` (`readFinals_finalParts`); the value on
`[]` is arbitrary -/
def readFinals : List Part → Base × Option Nat × Extra
  | (k, t) :: ps =>
    (if k = .name then .global t else .lambda (ofDigits t) none,
     match ps with
     | (.genericId, g) :: qs => (some (ofDigits g), readExtra qs)
     | qs => (none, readExtra qs))
  | [] => (.global [], none, .code)

theorem readFinals_finalParts (e : Entity) :
    readFinals (finalParts e) = (e.base.resolve, e.generic, e.extra) := by
  obtain ⟨f, b, g, x⟩ := e
  have hb : (if (basePart b.resolve).1 = Kind.name then Base.global (basePart b.resolve).2
      else .lambda (ofDigits (basePart b.resolve).2) none) = b.resolve := by
    cases b with
    | global n => rfl
    | lambda i bd => cases bd <;> simp [basePart, Base.resolve, ofDigits_natDigits]
  simp only [finalParts, readFinals, hb]
  cases g <;> cases x <;> simp [genericParts, extraParts, readExtra, ofDigits_natDigits]

theorem resolve_eq_of_finalParts (a b : Entity) (hf : a.file = b.file)
    (h : finalParts a = finalParts b) : a.resolve = b.resolve := by
  have := congrArg readFinals h
  simp only [readFinals_finalParts, Prod.mk.injEq] at this
  obtain ⟨fa, ba, ga, xa⟩ := a
  obtain ⟨fb, bb, gb, xb⟩ := b
  simp_all [Entity.resolve]

theorem finalParts_good (e : Entity) (h : e.namesOK = true) :
    ∀ p ∈ finalParts e, partGood p = true := by
  obtain ⟨file, base, generic, extra⟩ := e
  simp only [Entity.namesOK, Bool.and_eq_true] at h
  intro p hp
  simp only [finalParts, List.mem_cons, List.mem_append] at hp
  rcases hp with rfl | hp | hp
  · cases base with
    | global n => simpa [Base.resolve, basePart, partGood, Base.namesOK, nameOK] using h.1
    | lambda i bd =>
      cases bd with
      | none => exact partGood_digits (by simp)
      | some g => simpa [Base.resolve, basePart, partGood, Base.namesOK, nameOK] using h.1
  · cases generic with
    | none => simp [genericParts] at hp
    | some g =>
      simp [genericParts] at hp
      subst hp
      exact partGood_digits (by simp)
  · cases extra with
    | code => simp [extraParts] at hp
    | comptime i =>
      simp [extraParts] at hp
      subst hp
      exact partGood_digits (by simp)
    | comptimeData i d =>
      simp [extraParts] at hp
      rcases hp with rfl | rfl
      · exact partGood_digits (by simp)
      · simpa [partGood, Extra.namesOK, nameOK] using h.2

/-- `Entity.shape` read off the kinds of the final parts: the kind of the base part, whether a `G`
part follows, and how many block parts come after that (`Extra.tag`: none, `Z`, or `Z` and `I`) -/
def shapeOfKinds : List Kind → Bool × Bool × Nat
  | k :: .genericId :: ks => (k = .name, true, ks.length)
  | k :: ks => (k = .name, false, ks.length)
  | [] => (false, false, 0)

theorem shape_eq (e : Entity) : e.shape = shapeOfKinds ((finalParts e).map (·.1)) := by
  obtain ⟨f, b, g, x⟩ := e
  simp only [Entity.shape, finalParts]
  generalize b.resolve = r
  cases r <;> cases g <;> cases x <;> rfl

end CapyV.Mangle
