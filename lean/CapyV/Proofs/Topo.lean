import CapyV.Model.Topo
import CapyV.Spec.Sched
/-!
Helper lemmas for C26. The invariant `Inv a s` ties the `TopoSort` state `s` to the history
state `a`: the keys are the pending items and, entry by entry (`Good`), the parents of `c` are
the items that registered a dependency on `c` and `numChildren p` is `nwait a p`, the number
of pending items `p` has registered a dependency on. The history-only part is `WF`. Every
update of entries (`modify`, the two updates of `insert_dep`, the decrement loop of `remove`)
is a pointwise `upd`, whose entries are read off without induction.
-/
namespace CapyV.Topo
open CapyV.SchedSpec

/-- number of entries that list `p` as a parent = number of pending children of `p` -/
def cnt (s : Topo) (p : Nat) : Nat := s.countP fun e => decide (p ∈ e.2.parents)

theorem countP_filter_ne {l : List Nat} (hn : l.Nodup) {x} (hx : x ∈ l) (P : Nat → Bool) :
    l.countP P = (l.filter (· ≠ x)).countP P + if P x then 1 else 0 := by
  rw [(List.perm_cons_erase hx).countP_eq, List.countP_cons, hn.erase_eq_filter]
  simp [bne, Bool.beq_eq_decide_eq]

theorem nodup_concat {l : List Nat} {x} (hl : l.Nodup) (hx : x ∉ l) : (l ++ [x]).Nodup :=
  List.nodup_append.2 ⟨hl, List.pairwise_singleton _ _,
    fun _ hy _ hz e => hx (List.mem_singleton.1 hz ▸ e ▸ hy)⟩

theorem mem_push {s : Topo} {k d e} : e ∈ push s k d ↔ e ∈ s ∨ e = (k, d) := by
  simp [push]

theorem mem_drop {s : Topo} {k e} : e ∈ drop s k ↔ e ∈ s ∧ e.1 ≠ k := by
  simp [drop]

theorem mem_modify {s : Topo} {k f e} :
    e ∈ modify s k f ↔ ∃ e0 ∈ s, e = if e0.1 = k then (e0.1, f e0.2) else e0 := by
  simp only [modify, List.mem_map]
  exact exists_congr fun _ => and_congr_right fun _ => eq_comm

theorem get?_push_self {s : Topo} {k d} (h : k ∉ keys s) : get? (push s k d) k = some d := by
  induction s with
  | nil => exact if_pos rfl
  | cons e t ih =>
    rw [keys, List.map_cons, List.mem_cons, not_or] at h
    rw [push, List.cons_append, get?, if_neg (Ne.symm h.1)]
    exact ih h.2

theorem get?_push_ne {s : Topo} {k d x} (h : k ≠ x) : get? (push s k d) x = get? s x := by
  induction s with
  | nil => exact if_neg h
  | cons e t ih =>
    rw [push, List.cons_append, get?, get?]
    exact congrArg _ ih

@[simp] theorem keys_push (s : Topo) (k d) : keys (push s k d) = keys s ++ [k] := by
  simp [keys, push]

theorem keys_drop (s : Topo) (k) : keys (drop s k) = (keys s).filter (· ≠ k) := by
  simp only [keys, drop, List.filter_map]
  rfl

theorem mem_keys {s : Topo} {k} : k ∈ keys s ↔ ∃ d, (k, d) ∈ s := by
  simp [keys]

theorem get?_none {s : Topo} {k} : get? s k = none ↔ k ∉ keys s := by
  induction s with
  | nil => exact ⟨fun _ => List.not_mem_nil, fun _ => rfl⟩
  | cons e t ih =>
    rw [get?, keys, List.map_cons, List.mem_cons, not_or]
    split
    · rename_i hk
      exact ⟨fun h => (by cases h), fun h => absurd hk.symm h.1⟩
    · rename_i hk
      exact ih.trans ⟨fun h => ⟨fun e => hk e.symm, h⟩, And.right⟩

theorem get?_some_mem {s : Topo} {k d} (h : get? s k = some d) : (k, d) ∈ s := by
  induction s with
  | nil => simp [get?] at h
  | cons e t ih =>
    obtain ⟨k', d'⟩ := e
    by_cases hk : k' = k
    · simp [get?, hk] at h
      simp [hk, h]
    · simp [get?, hk] at h
      simp [ih h]

theorem mem_get? {s : Topo} (hn : (keys s).Nodup) {k d} (h : (k, d) ∈ s) : get? s k = some d := by
  induction s with
  | nil => cases h
  | cons e t ih =>
    rw [keys, List.map_cons, List.nodup_cons] at hn
    rw [get?]
    rcases List.mem_cons.1 h with rfl | h
    · exact if_pos rfl
    · rw [if_neg fun e' => hn.1 (List.mem_map.2 ⟨_, h, e'.symm⟩), ih hn.2 h]

theorem modify_push (s : Topo) (k d k0 f) :
    modify (push s k d) k0 f = push (modify s k0 f) k (if k = k0 then f d else d) := by
  by_cases h : k = k0 <;> simp [modify, push, h]

def upd (s : Topo) (g : Nat → Deps → Deps) : Topo := s.map fun e => (e.1, g e.1 e.2)

theorem mem_upd {s : Topo} {g k d'} : (k, d') ∈ upd s g ↔ ∃ d, (k, d) ∈ s ∧ d' = g k d := by
  simp only [upd, List.mem_map, Prod.mk.injEq, Prod.exists]
  constructor
  · rintro ⟨k, d, h, rfl, rfl⟩
    exact ⟨d, h, rfl⟩
  · rintro ⟨d, h, rfl⟩
    exact ⟨k, d, h, rfl, rfl⟩

@[simp] theorem keys_upd (s : Topo) (g) : keys (upd s g) = keys s := by
  simp [keys, upd, Function.comp_def]

theorem upd_congr {s : Topo} {g g'} (h : ∀ k d, (k, d) ∈ s → g k d = g' k d) : upd s g = upd s g' :=
  List.map_congr_left fun e he => by rw [h e.1 e.2 he]

theorem upd_upd (s : Topo) (g g') : upd (upd s g) g' = upd s fun k d => g' k (g k d) := by
  simp [upd]

theorem modify_eq_upd (s : Topo) (k f) : modify s k f = upd s fun x d => if x = k then f d else d :=
  List.map_congr_left fun e _ => by by_cases h : e.1 = k <;> simp [h]

@[simp] theorem keys_modify (s : Topo) (k f) : keys (modify s k f) = keys s := by
  rw [modify_eq_upd, keys_upd]

theorem get?_upd (s : Topo) (g x) : get? (upd s g) x = (get? s x).map (g x) := by
  induction s with
  | nil => rfl
  | cons e t ih =>
    show get? ((e.1, g e.1 e.2) :: upd t g) x = (if e.1 = x then some e.2 else get? t x).map _
    rw [get?]
    by_cases hx : e.1 = x
    · rw [if_pos hx, if_pos hx, Option.map_some, hx]
    · rw [if_neg hx, if_neg hx, ih]

theorem get?_modify (s : Topo) (k f x) :
    get? (modify s k f) x = (get? s x).map (fun d => if x = k then f d else d) := by
  rw [modify_eq_upd, get?_upd]

theorem upd_id (s : Topo) : upd s (fun _ d => d) = s := by simp [upd]

theorem modify_absent {s : Topo} {k f} (h : k ∉ keys s) : modify s k f = s := by
  rw [modify_eq_upd]
  have hg : ∀ k' d, (k', d) ∈ s → (if k' = k then f d else d) = d := fun k' d hm =>
    if_neg fun (e : k' = k) => h (mem_keys.2 ⟨d, e ▸ hm⟩)
  exact (upd_congr hg).trans (upd_id s)

/-- the refinement relation between the `TopoSort` state `s` and the history state `a`: every step of
the protocol keeps it (`inv_step`), and every observer is read off it. This is the form the
statements show; `inv_iff` is the form every proof uses -/
structure Inv (a : Abs) (s : Topo) : Prop where
  keys_eq : keys s = a.pend
  nodup : a.pend.Nodup
  disj : ∀ x, x ∈ a.pend → x ∉ a.done
  known : ∀ p c, (p, c) ∈ a.regs → (p ∈ a.pend ∨ p ∈ a.done) ∧ (c ∈ a.pend ∨ c ∈ a.done)
  par : ∀ c d, (c, d) ∈ s → d.parents.Nodup ∧ ∀ p, p ∈ d.parents ↔ (p, c) ∈ a.regs
  count : ∀ p d, (p, d) ∈ s → d.numChildren = cnt s p

theorem inv_empty : Inv Abs.empty [] := by
  constructor <;> simp [Abs.empty, keys]

theorem Inv.keys_nodup {a s} (h : Inv a s) : (keys s).Nodup := h.keys_eq ▸ h.nodup

theorem Inv.mem_pend {a s} (h : Inv a s) {x} : x ∈ a.pend ↔ ∃ d, (x, d) ∈ s := by
  rw [← h.keys_eq, mem_keys]

/-- how many pending items `p` has registered a dependency on -/
def nwait (a : Abs) (p : Nat) : Nat := a.pend.countP fun c => decide ((p, c) ∈ a.regs)

structure WF (a : Abs) : Prop where
  nodup : a.pend.Nodup
  disj : ∀ x, x ∈ a.pend → x ∉ a.done
  known : ∀ p c, (p, c) ∈ a.regs → (p ∈ a.pend ∨ p ∈ a.done) ∧ (c ∈ a.pend ∨ c ∈ a.done)

structure Good (a : Abs) (c : Nat) (d : Deps) : Prop where
  pnodup : d.parents.Nodup
  par : ∀ p, p ∈ d.parents ↔ (p, c) ∈ a.regs
  num : d.numChildren = nwait a c

/-- `Inv` counts over the state (`cnt s`), `Good` over the history (`nwait a`), so that entries can be
checked one at a time -/
theorem inv_iff {a s} : Inv a s ↔ WF a ∧ keys s = a.pend ∧ ∀ c d, (c, d) ∈ s → Good a c d := by
  have hc : keys s = a.pend → (∀ c d, (c, d) ∈ s → ∀ p, p ∈ d.parents ↔ (p, c) ∈ a.regs) →
      ∀ p, cnt s p = nwait a p := fun hk hp p => by
    rw [nwait, ← hk, keys, List.countP_map]
    exact List.countP_congr fun e he => by simp [hp e.1 e.2 he p]
  constructor
  · intro h
    have := hc h.keys_eq fun c d hm => (h.par c d hm).2
    exact ⟨⟨h.nodup, h.disj, h.known⟩, h.keys_eq, fun c d hm =>
      ⟨(h.par c d hm).1, (h.par c d hm).2, this c ▸ h.count c d hm⟩⟩
  · rintro ⟨w, hk, g⟩
    have := hc hk fun c d hm => (g c d hm).par
    exact ⟨hk, w.nodup, w.disj, w.known, fun c d hm => ⟨(g c d hm).pnodup, (g c d hm).par⟩,
      fun c d hm => this c ▸ (g c d hm).num⟩

theorem inv_congr {a a' s} (hp : a'.pend = a.pend) (hd : a'.done = a.done)
    (hr : ∀ r, r ∈ a'.regs ↔ r ∈ a.regs) (h : Inv a s) : Inv a' s := by
  refine ⟨hp ▸ h.keys_eq, hp ▸ h.nodup, ?_, fun p c hm => ?_,
    fun c d hm => ⟨(h.par c d hm).1, fun p => ?_⟩, h.count⟩
  · rw [hp, hd]
    exact h.disj
  · rw [hp, hd]
    exact h.known p c ((hr _).1 hm)
  · rw [hr]
    exact (h.par c d hm).2 p

theorem nwait_eq_zero {a : Abs} {p} : nwait a p = 0 ↔ ∀ c ∈ a.pend, (p, c) ∉ a.regs := by
  simp [nwait, List.countP_eq_zero]

theorem nwait_concat (a : Abs) (x q) :
    nwait { a with pend := a.pend ++ [x] } q = nwait a q + if (q, x) ∈ a.regs then 1 else 0 := by
  simp [nwait, List.countP_append]

theorem nwait_remove {a : Abs} (hn : a.pend.Nodup) {x} (hx : x ∈ a.pend) (q) :
    nwait a q = nwait (step a (.remove x)) q + if (q, x) ∈ a.regs then 1 else 0 := by
  simpa [nwait, step] using countP_filter_ne hn hx fun c => decide ((q, c) ∈ a.regs)

theorem nwait_cons {a : Abs} (hn : a.pend.Nodup) {p c} (hc : c ∈ a.pend) (hr : (p, c) ∉ a.regs) (q) :
    nwait { a with regs := (p, c) :: a.regs } q = nwait a q + if q = p then 1 else 0 := by
  unfold nwait
  by_cases hq : q = p
  · subst hq
    rw [countP_filter_ne hn hc, countP_filter_ne hn hc fun c' => decide ((q, c') ∈ a.regs)]
    simp only [List.mem_cons, true_or, decide_true, if_true, hr, decide_false, Bool.false_eq_true,
      if_false, Nat.add_zero, Nat.add_right_cancel_iff]
    exact List.countP_congr fun c' hc' => by
      have : c' ≠ c := by simpa using (List.mem_filter.1 hc').2
      simp [this]
  · simp [hq]

theorem mem_addPend {a : Abs} {x y} : y ∈ (addPend a x).pend ↔ y ∈ a.pend ∨ y = x := by
  unfold addPend
  split
  · constructor
    · exact Or.inl
    · rintro (h | rfl) <;> assumption
  · simp

theorem mem_addAll_pend {y} : ∀ {xs : List Nat} {a : Abs}, y ∈ (addAll a xs).pend ↔ y ∈ a.pend ∨ y ∈ xs
  | [], _ => by simp [addAll]
  | x :: xs, a => by rw [addAll, mem_addAll_pend, mem_addPend, List.mem_cons, or_assoc]

theorem addPend_regs (a : Abs) (x) : (addPend a x).regs = a.regs := by
  unfold addPend
  split <;> rfl

theorem addPend_done (a : Abs) (x) : (addPend a x).done = a.done := by
  unfold addPend
  split <;> rfl

theorem regOne_done (a : Abs) (p c) : (regOne a p c).done = a.done := by
  rw [regOne, addPend_done, addPend_done]

theorem regAll_pend_mono {p y} : ∀ (cs : List Nat) (a : Abs), y ∈ a.pend → y ∈ (regAll a p cs).pend := by
  intro cs
  induction cs with
  | nil => exact fun _ h => h
  | cons c cs ih =>
    intro a h
    refine ih _ ?_
    rw [regOne]
    exact mem_addPend.2 (.inl (mem_addPend.2 (.inl h)))

theorem regAll_done {p} : ∀ (cs : List Nat) (a : Abs), (regAll a p cs).done = a.done
  | [], _ => rfl
  | c :: cs, a => by rw [regAll, regAll_done cs, regOne_done]

theorem inv_addFresh {a s} (h : Inv a s) {x} (hp : x ∉ a.pend) (hd : x ∉ a.done) :
    Inv (addPend a x) (push s x Deps.new) := by
  obtain ⟨w, hk, g⟩ := inv_iff.1 h
  have hnew : ∀ p c, (p, c) ∈ a.regs → p ≠ x ∧ c ≠ x := fun p c hr => by
    have := w.known p c hr
    exact ⟨fun e => (e ▸ this.1).elim hp hd, fun e => (e ▸ this.2).elim hp hd⟩
  have hnum : ∀ c, nwait { a with pend := a.pend ++ [x] } c = nwait a c := fun c => by
    rw [nwait_concat, if_neg fun hr => (hnew c x hr).2 rfl]
    rfl
  simp only [addPend, hp, if_false]
  refine inv_iff.2 ⟨⟨?_, ?_, ?_⟩, by simp [hk], fun c d hm => ?_⟩
  · exact nodup_concat w.nodup hp
  · intro y hy
    rcases List.mem_append.1 hy with hy | hy
    · exact w.disj y hy
    · simpa [List.mem_singleton.1 hy] using hd
  · intro p c hr
    have := w.known p c hr
    exact ⟨this.1.imp_left (List.mem_append_left _), this.2.imp_left (List.mem_append_left _)⟩
  · rcases mem_push.1 hm with hm | hm
    · refine ⟨(g c d hm).pnodup, (g c d hm).par, ?_⟩
      rw [hnum]
      exact (g c d hm).num
    · obtain ⟨rfl, rfl⟩ := Prod.mk.inj hm
      refine ⟨List.nodup_nil, fun p => ?_, ?_⟩
      · simpa [Deps.new] using fun hr => (hnew p c hr).2 rfl
      · rw [hnum]
        exact (nwait_eq_zero.2 fun y _ hr => (hnew c y hr).1 rfl).symm

theorem inv_link {a s} (h : Inv a s) {p c} (hp : p ∈ a.pend) (hc : c ∈ a.pend) (hr : (p, c) ∉ a.regs) :
    Inv { a with regs := (p, c) :: a.regs } (modify (modify s c (addParent p)) p incr) := by
  obtain ⟨w, hk, g⟩ := inv_iff.1 h
  rw [modify_eq_upd, modify_eq_upd, upd_upd]
  refine inv_iff.2 ⟨⟨w.nodup, w.disj, fun p' c' hm => ?_⟩, by simp [hk], fun x d' hm => ?_⟩
  · rcases List.mem_cons.1 hm with hm | hm
    · obtain ⟨rfl, rfl⟩ := Prod.mk.inj hm
      exact ⟨.inl hp, .inl hc⟩
    · exact w.known p' c' hm
  · obtain ⟨d, hm0, rfl⟩ := mem_upd.1 hm
    have gd := g x d hm0
    -- `incr` leaves the parents alone: only the entry of `c` gains the parent `p`
    have hparents : (if x = p then incr (if x = c then addParent p d else d)
        else if x = c then addParent p d else d).parents =
          if x = c then d.parents ++ [p] else d.parents := by
      simp only [apply_ite Deps.parents, incr, addParent, ite_self]
    refine ⟨?_, fun q => ?_, ?_⟩
    · rw [hparents]
      split
      · subst x
        exact nodup_concat gd.pnodup fun hq => hr ((gd.par p).1 hq)
      · exact gd.pnodup
    · rw [hparents]
      split
      · subst x
        simp [gd.par q, or_comm]
      · simp [gd.par q, ‹¬x = c›]
    · simp only [apply_ite Deps.numChildren, incr, addParent, ite_self, nwait_cons w.nodup hc hr,
        ← gd.num]
      split <;> rfl

/-- `ps.Nodup`: the loop decrements once per occurrence in `ps`, `upd` once per key -/
theorem decrAll_eq {ps : List Nat} (hn : ps.Nodup) : ∀ {t : Topo},
    (∀ q d, q ∈ ps → (q, d) ∈ t → d.numChildren ≠ 0) →
    decrAll t ps = some (upd t fun q d => if q ∈ ps then decrD d else d) := by
  induction ps with
  | nil =>
    intro t _
    rw [decrAll]
    exact congrArg some (upd_id t).symm
  | cons p ps ih =>
    intro t h
    rw [List.nodup_cons] at hn
    rw [decrAll]
    cases hg : get? t p with
    | none =>
      have hp : p ∉ keys t := get?_none.1 hg
      simp only
      rw [ih hn.2 fun q d hq => h q d (List.mem_cons_of_mem _ hq)]
      exact congrArg some (upd_congr fun k d hm => by
        have : k ≠ p := fun e => hp (mem_keys.2 ⟨d, e ▸ hm⟩)
        simp [this])
    | some d =>
      simp only [h p d (List.mem_cons_self ..) (get?_some_mem hg), if_false]
      rw [modify_eq_upd, ih hn.2, upd_upd]
      · exact congrArg some (upd_congr fun k d _ => by
          by_cases hk : k = p
          · subst hk
            simp [hn.1]
          · simp [hk])
      · intro q d' hq hm
        obtain ⟨d0, hm0, rfl⟩ := mem_upd.1 hm
        have : q ≠ p := fun e => hn.1 (e ▸ hq)
        simpa [this] using h q d0 (List.mem_cons_of_mem _ hq) hm0

theorem inv_remove {a s} (h : Inv a s) {x} (hx : x ∈ a.pend) :
    ∃ s', remove s x = some (s', true) ∧ Inv (step a (.remove x)) s' := by
  obtain ⟨w, hk, g⟩ := inv_iff.1 h
  obtain ⟨dx, hdx⟩ := h.mem_pend.1 hx
  have gx := g x dx hdx
  -- every parent of `x` still counts `x` itself: this is what rules out the underflow
  have hnum : ∀ q d, (q, d) ∈ drop s x →
      d.numChildren = nwait (step a (.remove x)) q + if q ∈ dx.parents then 1 else 0 := fun q d hm => by
    rw [(g q d (mem_drop.1 hm).1).num, nwait_remove w.nodup hx]
    simp only [gx.par q]
  have noUnderflow : ∀ q d, q ∈ dx.parents → (q, d) ∈ drop s x → d.numChildren ≠ 0 := by
    intro q d hq hm
    rw [hnum q d hm, if_pos hq]
    exact Nat.succ_ne_zero _
  have hrem : remove s x =
      some (upd (drop s x) fun q d => if q ∈ dx.parents then decrD d else d, true) := by
    rw [remove, mem_get? h.keys_nodup hdx]
    simp only
    rw [decrAll_eq gx.pnodup noUnderflow]
  refine ⟨_, hrem, ?_⟩
  have known : ∀ y, y ∈ a.pend ∨ y ∈ a.done → y ∈ a.pend.filter (· ≠ x) ∨ y ∈ x :: a.done := by
    intro y hy
    by_cases e : y = x
    · exact .inr (e ▸ List.mem_cons_self ..)
    · exact hy.imp (fun h => List.mem_filter.2 ⟨h, by simpa using e⟩) (List.mem_cons_of_mem _)
  refine inv_iff.2 ⟨⟨w.nodup.filter _, fun y hy => ?_, fun p c hr => ?_⟩, ?_, fun q d' hm => ?_⟩
  · have := List.mem_filter.1 hy
    exact fun h => (List.mem_cons.1 h).elim (by simpa using this.2) (w.disj y this.1)
  · exact ⟨known p (w.known p c hr).1, known c (w.known p c hr).2⟩
  · rw [keys_upd, keys_drop, hk]
    rfl
  · obtain ⟨d, hm0, rfl⟩ := mem_upd.1 hm
    have gd := g q d (mem_drop.1 hm0).1
    refine ⟨?_, ?_, ?_⟩
    · simpa only [apply_ite Deps.parents, decrD, ite_self] using gd.pnodup
    · simpa only [apply_ite Deps.parents, decrD, ite_self, step] using gd.par
    · have := hnum q d hm0
      rw [apply_ite Deps.numChildren]
      split <;> rename_i hq
      · rw [if_pos hq] at this
        exact congrArg (· - 1) this
      · rwa [if_neg hq] at this

/-- `entry(k).or_insert_with(Dependencies::new)`: what `addPend` is on the state -/
def ensure (s : Topo) (k : Nat) : Topo := if k ∈ keys s then s else push s k Deps.new

theorem inv_ensure {a s} (h : Inv a s) {x} (hd : x ∉ a.done) : Inv (addPend a x) (ensure s x) := by
  by_cases hx : x ∈ a.pend
  · have : x ∈ keys s := h.keys_eq ▸ hx
    simpa [ensure, this, addPend, hx] using h
  · have : x ∉ keys s := h.keys_eq ▸ hx
    simpa [ensure, this] using inv_addFresh h hx hd

theorem insert_fst (s : Topo) (x) : (insert s x).1 = ensure s x := by
  unfold insert ensure
  cases hg : get? s x with
  | none => simp [get?_none.1 hg]
  | some d => simp [mem_keys.2 ⟨d, get?_some_mem hg⟩]

theorem modify_ensure (s : Topo) (k f) :
    modify (ensure s k) k f =
      match get? s k with
      | some _ => modify s k f
      | none => push s k (f Deps.new) := by
  cases hg : get? s k with
  | none =>
    have hk := get?_none.1 hg
    simp [ensure, hk, modify_push, modify_absent hk]
  | some d => simp [ensure, mem_keys.2 ⟨d, get?_some_mem hg⟩]

theorem ensure_modify {s : Topo} {c f p} (hc : c ∈ keys s) :
    ensure (modify s c f) p = modify (ensure s p) c f := by
  by_cases hp : p ∈ keys s
  · simp [ensure, hp]
  · have : p ≠ c := fun e => hp (e ▸ hc)
    simp [ensure, hp, modify_push, this]

theorem mem_keys_ensure {s : Topo} {k x} : x ∈ keys (ensure s k) ↔ x ∈ keys s ∨ x = k := by
  unfold ensure
  split
  · exact ⟨.inl, fun h => h.elim id (· ▸ ‹_›)⟩
  · simp

/-- the arms of `insert_dep` (child vacant or occupied, parent vacant or occupied) in one shape -/
theorem insertDep_eq (s : Topo) (p c : Nat) :
    insertDep s p c =
      if (∃ d, get? s c = some d ∧ p ∈ d.parents) then s
      else modify (modify (ensure (ensure s c) p) c (addParent p)) p incr := by
  have hb : ∀ t, bump t p = modify (ensure t p) p incr := fun t => by
    rw [modify_ensure]
    rfl
  have hc : c ∈ keys (ensure s c) := mem_keys_ensure.2 (.inr rfl)
  rw [← ensure_modify hc, ← hb, modify_ensure]
  unfold insertDep
  cases hg : get? s c with
  | none => simp
  | some d => by_cases hr : p ∈ d.parents <;> simp [hr]

theorem inv_regOne {a s} (h : Inv a s) {p c} (hp : p ∉ a.done) (hc : c ∉ a.done) :
    Inv (regOne a p c) (insertDep s p c) := by
  have h2 : Inv (addPend (addPend a c) p) (ensure (ensure s c) p) :=
    inv_ensure (inv_ensure h hc) (by rwa [addPend_done])
  have hreg : (∃ d, get? s c = some d ∧ p ∈ d.parents) ↔ (p, c) ∈ a.regs := by
    constructor
    · rintro ⟨d, hg, hpar⟩
      exact ((h.par c d (get?_some_mem hg)).2 p).1 hpar
    · intro hr
      obtain ⟨d, hd⟩ := h.mem_pend.1 (((h.known p c hr).2).resolve_right hc)
      exact ⟨d, mem_get? h.keys_nodup hd, ((h.par c d hd).2 p).2 hr⟩
  rw [insertDep_eq, regOne]
  split
  · rename_i hr
    rw [hreg] at hr
    have hk := h.known p c hr
    have : addPend (addPend a c) p = a := by
      simp [addPend, hk.1.resolve_right hp, hk.2.resolve_right hc]
    simp only [this]
    exact inv_congr (a := a) rfl rfl (fun r => ⟨fun h => (List.mem_cons.1 h).elim (· ▸ hr) id,
      List.mem_cons_of_mem _⟩) h
  · rename_i hr
    rw [hreg] at hr
    exact inv_link h2 (mem_addPend.2 (.inr rfl)) (mem_addPend.2 (.inl (mem_addPend.2 (.inr rfl))))
      (by rwa [addPend_regs, addPend_regs])

theorem inv_regAll {a s} (h : Inv a s) {p} (hp : p ∉ a.done) :
    ∀ cs, (∀ c ∈ cs, c ∉ a.done) → Inv (regAll a p cs) (insertDeps s p cs) := by
  intro cs
  induction cs generalizing a s with
  | nil =>
    intro _
    exact h
  | cons c cs ih =>
    intro hcs
    simp only [regAll, insertDeps]
    apply ih (inv_regOne h hp (hcs c (by simp)))
    · rw [regOne_done]
      exact hp
    · intro c' hc'
      rw [regOne_done]
      exact hcs c' (by simp [hc'])

theorem inv_addAll {a s} (h : Inv a s) :
    ∀ xs, xs.Nodup → (∀ x ∈ xs, x ∉ a.done ∧ x ∉ a.pend) → Inv (addAll a xs) (extend s xs) := by
  intro xs
  induction xs generalizing a s with
  | nil =>
    intro _ _
    exact h
  | cons x xs ih =>
    intro hn hx
    rw [List.nodup_cons] at hn
    have hx0 := hx x (List.mem_cons_self ..)
    rw [addAll, extend, put, get?_none.2 (h.keys_eq ▸ hx0.2)]
    refine ih (inv_addFresh h hx0.2 hx0.1) hn.2 fun y hy => ?_
    have := hx y (List.mem_cons_of_mem _ hy)
    exact ⟨addPend_done a x ▸ this.1, fun h => (mem_addPend.1 h).elim this.2 fun e => hn.1 (e ▸ hy)⟩

theorem inv_step {a s} (h : Inv a s) (op : Op) (hl : legal a op = true) :
    ∃ s', apply s op = some s' ∧ Inv (step a op) s' := by
  cases op with
  | insert x =>
    simp only [legal, decide_eq_true_eq] at hl
    refine ⟨_, rfl, ?_⟩
    rw [insert_fst]
    exact inv_ensure h hl
  | dep p c =>
    simp only [legal, Bool.and_eq_true, decide_eq_true_eq] at hl
    exact ⟨_, rfl, inv_regOne h hl.1 hl.2⟩
  | deps p cs =>
    simp only [legal, Bool.and_eq_true, decide_eq_true_eq, List.all_eq_true] at hl
    exact ⟨_, rfl, inv_regAll h hl.1 cs hl.2⟩
  | extend xs =>
    simp only [legal, Bool.and_eq_true, decide_eq_true_eq, List.all_eq_true] at hl
    exact ⟨_, rfl, inv_addAll h xs hl.1 hl.2⟩
  | remove x =>
    simp only [legal, decide_eq_true_eq] at hl
    obtain ⟨s', hs', hi⟩ := inv_remove h hl
    exact ⟨s', by simp [apply, hs'], hi⟩

theorem inv_run {a s} (h : Inv a s) : ∀ (ops : List Op) {a'}, after a ops = some a' →
    ∃ s', run s ops = some s' ∧ Inv a' s' := by
  intro ops
  induction ops generalizing a s with
  | nil =>
    intro a' ha
    simp only [after, Option.some.injEq] at ha
    exact ⟨s, rfl, ha ▸ h⟩
  | cons op ops ih =>
    intro a' ha
    simp only [after] at ha
    by_cases hl : legal a op = true
    · simp only [hl, if_true] at ha
      obtain ⟨s1, hs1, hi1⟩ := inv_step h op hl
      obtain ⟨s', hs', hi'⟩ := ih hi1 ha
      exact ⟨s', by simp [run, hs1, hs'], hi'⟩
    · simp [hl] at ha

theorem waits_iff {a : Abs} {x} : waits a x = true ↔ ∃ c, (x, c) ∈ a.regs ∧ c ∈ a.pend := by
  simp only [waits, List.any_eq_true, Bool.and_eq_true, decide_eq_true_eq, Prod.exists]
  exact ⟨fun ⟨_, c, hr, e, hc⟩ => ⟨c, e ▸ hr, hc⟩, fun ⟨c, hr, hc⟩ => ⟨x, c, hr, rfl, hc⟩⟩

theorem waits_iff_nwait {a : Abs} {x} : waits a x = true ↔ nwait a x ≠ 0 := by
  rw [waits_iff, ne_eq, nwait_eq_zero]
  exact ⟨fun ⟨c, hr, hc⟩ h => h c hc hr,
    fun h => Classical.byContradiction fun hn => h fun c hc hr => hn ⟨c, hr, hc⟩⟩

theorem depsDone_iff {a : Abs} {x} : depsDone a x = true ↔ ∀ c, (x, c) ∈ a.regs → c ∈ a.done := by
  simp only [depsDone, List.all_eq_true, Bool.or_eq_true, decide_eq_true_eq, Prod.forall]
  refine ⟨fun hall c hr => (hall x c hr).resolve_left (by simp), fun hall p c hr => ?_⟩
  by_cases hp : p = x
  · exact .inr (hall c (hp ▸ hr))
  · left
    simpa using hp

/-- a registered dependency of a pending item is pending or done (`WF.known`) and not both (`WF.disj`) -/
theorem depsDone_iff_nwait {a : Abs} (w : WF a) {x} : depsDone a x = true ↔ nwait a x = 0 := by
  rw [depsDone_iff, nwait_eq_zero]
  exact ⟨fun h c hc hr => w.disj c hc (h c hr),
    fun h c hr => (w.known x c hr).2.resolve_left fun hc => h c hc hr⟩

/-- both sides say that every pending item has `nwait ≠ 0` -/
theorem cyclic_iff_readyList {a : Abs} (w : WF a) :
    cyclic a = true ↔ a.pend ≠ [] ∧ readyList a = [] := by
  simp [cyclic, readyList, List.filter_eq_nil_iff, waits_iff_nwait, ← depsDone_iff_nwait w]

theorem mem_readyList {a : Abs} {x} :
    x ∈ readyList a ↔ x ∈ a.pend ∧ ∀ c, (x, c) ∈ a.regs → c ∈ a.done := by
  rw [readyList, List.mem_filter, depsDone_iff]

theorem Inv.leaves_eq {a s} (h : Inv a s) : leaves s = readyList a := by
  obtain ⟨w, hk, g⟩ := inv_iff.1 h
  unfold leaves readyList
  rw [← hk, keys, List.filter_map]
  congr 1
  exact List.filter_congr fun e he => by
    rw [Bool.eq_iff_iff]
    simp [depsDone_iff_nwait w, (g e.1 e.2 he).num]

theorem Inv.isEmpty_eq {a s} (h : Inv a s) : s.isEmpty = a.pend.isEmpty := by
  rw [← h.keys_eq, keys, List.isEmpty_map]

theorem Inv.eq_nil_iff {a s} (h : Inv a s) : s = [] ↔ a.pend = [] := by
  rw [← h.keys_eq, keys, List.map_eq_nil_iff]

theorem leaves_nil_iff (s : Topo) : leaves s = [] ↔ ∀ e ∈ s, e.2.numChildren ≠ 0 := by
  simp only [leaves, List.map_eq_nil_iff, List.filter_eq_nil_iff, decide_eq_true_eq, ne_eq]

theorem inCycle_iff_leaves (s : Topo) : inCycle s = true ↔ s ≠ [] ∧ leaves s = [] := by
  rw [leaves_nil_iff, inCycle]
  simp only [Bool.and_eq_true, Bool.not_eq_true', List.isEmpty_eq_false_iff, List.all_eq_true,
    decide_eq_true_eq, ne_eq]

theorem peekAll_eq (s : Topo) : peekAll s = if inCycle s then .cycle else .ok (leaves s) := by
  unfold peekAll
  refine ite_congr (propext ?_) (fun _ => rfl) fun _ => rfl
  rw [inCycle_iff_leaves]
  simp [List.isEmpty_iff]

theorem Inv.cyclic_eq_inCycle {a s} (h : Inv a s) : cyclic a = inCycle s := by
  rw [Bool.eq_iff_iff, inCycle_iff_leaves, h.leaves_eq, cyclic_iff_readyList (inv_iff.1 h).1,
    ne_eq, ne_eq, h.eq_nil_iff]

theorem Inv.peekAll_spec {a s} (h : Inv a s) :
    peekAll s = if cyclic a then .cycle else .ok (readyList a) := by
  rw [peekAll_eq, h.cyclic_eq_inCycle, h.leaves_eq]

theorem decrAll_keys : ∀ {ps : List Nat} {t t' : Topo}, decrAll t ps = some t' → keys t' = keys t
  | [], _, _, h => by
    cases h
    rfl
  | p :: ps, t, t', h => by
    rw [decrAll] at h
    split at h
    · exact decrAll_keys h
    · split at h
      · cases h
      · rw [decrAll_keys h, keys_modify]

theorem remove_keys {s s' : Topo} {x b} (h : remove s x = some (s', b)) :
    keys s' = (keys s).filter (· ≠ x) := by
  unfold remove at h
  cases hg : get? s x with
  | none =>
    rw [hg] at h
    cases h
    exact (List.filter_eq_self.2 fun y hy => by
      simpa using fun (e : y = x) => get?_none.1 hg (e ▸ hy)).symm
  | some d =>
    rw [hg] at h
    simp only at h
    cases hd : decrAll (drop s x) d.parents with
    | none =>
      rw [hd] at h
      cases h
    | some t =>
      rw [hd] at h
      cases h
      rw [decrAll_keys hd, keys_drop]

theorem leaves_sublist (s : Topo) : (leaves s).Sublist (keys s) := List.filter_sublist.map _

theorem mem_keys_of_peekAll {s : Topo} {l} (h : peekAll s = .ok l) : ∀ x ∈ l, x ∈ keys s := by
  rw [peekAll_eq] at h
  split at h
  · cases h
  · cases h
    exact fun _ hx => (leaves_sublist s).subset hx

theorem peekAllCyclic_eq_some {s : Topo} {l} (h : peekAllCyclic s = some l) : l = keys s := by
  unfold peekAllCyclic at h
  split at h
  · exact (Option.some.inj h).symm
  · cases h

theorem inv_of_run {ops : List Op} {a s} (h : after Abs.empty ops = some a)
    (hs : run [] ops = some s) : Inv a s := by
  obtain ⟨s', hs', hi⟩ := inv_run inv_empty ops h
  exact Option.some.inj (hs.symm.trans hs') ▸ hi

end CapyV.Topo
