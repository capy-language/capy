import CapyV.Model.OrderIndep
/-!
Helper definitions and lemmas for C20 (results do not depend on the order of definitions).
`processLeaf` is read through three characterisations (`isDone_processLeaf`,
`mem_pending_processLeaf`, `waitsOf_processLeaf`) that hold whether or not the item completes
(`Completes`); the invariants `Inv`, `Correct`, `WInv` are proved from these for one step. What a
step preserves whatever item it processes (`Correct`, `WInv`, a bound on the progress count) is
lifted by `foldl_processLeaf` / `rounds_preserves`; only `Inv` needs the processed item to be
pending (`rounds_inv`). Termination: over a list `U` holding every reachable item, the number of
completed plus the number of asked items (`progress`) never falls, and rises at the first item of
every round that has something pending.
-/
namespace CapyV.OrderIndep

variable {R : Type}

/-- `val` solves the reference equations of `sys` -/
def IsSolution (sys : Sys R) (val : Nat → R) : Prop :=
  ∀ x, val x = sys.f x ((sys.deps x).map val)

/-- a rank that strictly decreases along references (no cycles) -/
def IsRank (sys : Sys R) (rk : Nat → Nat) : Prop :=
  ∀ x, ∀ d ∈ sys.deps x, rk d < rk x

theorem lookupR_isSome_iff {x : Nat} {l : List (Nat × R)} :
    (lookupR x l).isSome = true ↔ x ∈ l.map Prod.fst := by
  induction l with
  | nil => simp [lookupR]
  | cons p l ih =>
    rw [lookupR, List.map_cons, List.mem_cons]
    split
    · exact ⟨fun _ => .inl ‹_›, fun _ => rfl⟩
    · exact ih.trans ⟨.inr, fun h => h.resolve_left ‹_›⟩

theorem lookupR_eq_none_iff {x : Nat} {l : List (Nat × R)} :
    lookupR x l = none ↔ x ∉ l.map Prod.fst := by
  rw [← lookupR_isSome_iff]
  cases lookupR x l <;> simp

theorem lookupR_some_mem {x : Nat} {r : R} {l : List (Nat × R)} :
    lookupR x l = some r → (x, r) ∈ l := by
  induction l with
  | nil => simp [lookupR]
  | cons p l ih =>
    obtain ⟨y, s⟩ := p
    by_cases h : x = y
    · subst h
      simp [lookupR]
      intro h
      simp [h]
    · simp only [lookupR, h, if_false]
      intro h'
      exact List.mem_cons_of_mem _ (ih h')

theorem isDone_iff {st : St R} {x : Nat} : isDone st x = true ↔ x ∈ st.done.map Prod.fst :=
  lookupR_isSome_iff

theorem not_isDone_iff {st : St R} {x : Nat} : isDone st x = false ↔ x ∉ st.done.map Prod.fst := by
  rw [← isDone_iff]
  simp

/-- the items `infer x` reports as not finished yet (the local `missing` of `inferAbs`) -/
def missing (sys : Sys R) (st : St R) (x : Nat) : List Nat := (sys.deps x).filter fun d => !isDone st d

/-- exactly when `inferAbs sys st x` answers `.inl` (`processLeaf_cases`) -/
def Completes (sys : Sys R) (st : St R) (x : Nat) : Prop := ∀ d ∈ sys.deps x, isDone st d = true

theorem mem_missing {sys : Sys R} {st : St R} {x d : Nat} :
    d ∈ missing sys st x ↔ d ∈ sys.deps x ∧ isDone st d = false := by
  simp [missing]

theorem missing_eq_nil {sys : Sys R} {st : St R} {x : Nat} :
    missing sys st x = [] ↔ Completes sys st x := by
  simp [missing, Completes, List.filter_eq_nil_iff]

theorem processLeaf_cases (sys : Sys R) (st : St R) (x : Nat) :
    (Completes sys st x ∧ processLeaf sys st x =
      { done := (x, sys.f x ((sys.deps x).filterMap fun d => lookupR d st.done)) :: st.done,
        pending := st.pending.filter (· != x), waits := st.waits.filter (fun p => p.1 != x) }) ∨
    (¬ Completes sys st x ∧ processLeaf sys st x =
      { done := st.done,
        pending := st.pending ++ ((missing sys st x).filter fun d =>
          !(st.pending.contains d) && !isDone st d).eraseDups,
        waits := (x, missing sys st x) :: st.waits.filter (fun p => p.1 != x) }) := by
  unfold processLeaf inferAbs
  by_cases h : (missing sys st x).isEmpty = true
  · refine .inl ⟨missing_eq_nil.1 (List.isEmpty_iff.1 h), ?_⟩
    simp only [missing] at h
    simp only [h, if_true]
  · refine .inr ⟨fun hc => h (List.isEmpty_iff.2 (missing_eq_nil.2 hc)), ?_⟩
    simp only [missing] at h
    simp only [h]
    rfl

theorem isDone_processLeaf {sys : Sys R} {st : St R} {x y : Nat} :
    isDone (processLeaf sys st x) y = true ↔ isDone st y = true ∨ (y = x ∧ Completes sys st x) := by
  rcases processLeaf_cases sys st x with ⟨hc, h⟩ | ⟨hc, h⟩ <;> rw [h]
  · by_cases hy : y = x <;> simp [isDone, lookupR, hy, hc]
  · simp [hc, isDone]

theorem isDone_processLeaf_mono {sys : Sys R} {st : St R} {x y : Nat} :
    isDone st y = true → isDone (processLeaf sys st x) y = true :=
  fun h => isDone_processLeaf.2 (.inl h)

theorem mem_pending_processLeaf {sys : Sys R} {st : St R} {x y : Nat} :
    y ∈ (processLeaf sys st x).pending ↔
      (y ∈ st.pending ∧ ¬ (y = x ∧ Completes sys st x)) ∨
      (¬ Completes sys st x ∧ y ∈ sys.deps x ∧ isDone st y = false) := by
  rcases processLeaf_cases sys st x with ⟨hc, h⟩ | ⟨hc, h⟩ <;> rw [h]
  · simp [hc]
  · simp only [List.mem_append, List.mem_eraseDups, List.mem_filter, mem_missing, hc, and_false,
      not_false_eq_true, and_true, true_and]
    by_cases hp : y ∈ st.pending <;> simp [hp]

theorem waitsOf_processLeaf {sys : Sys R} {st : St R} {x y : Nat} :
    waitsOf (processLeaf sys st x) y = if y = x then missing sys st x else waitsOf st y := by
  have hf : ∀ l : List (Nat × List Nat), (l.filter fun p => p.1 != x).find? (fun p => p.1 == y) =
      if y = x then none else l.find? (fun p => p.1 == y) := fun l => by
    split
    · subst y
      simp [List.find?_eq_none]
    · rename_i hne
      rw [List.find?_filter]
      congr 1
      funext p
      by_cases hp : p.1 = y <;> simp [hp, hne]
  rcases processLeaf_cases sys st x with ⟨hc, h⟩ | ⟨hc, h⟩ <;> rw [h] <;> by_cases hy : y = x
  · simp only [waitsOf, hf]
    simp [hy, missing_eq_nil.2 hc]
  · simp [waitsOf, hf, hy]
  · simp [waitsOf, hy]
  · simp [waitsOf, hf, hy, Ne.symm hy]

theorem known_processLeaf {sys : Sys R} {st : St R} {x y : Nat}
    (h : y ∈ st.pending ∨ isDone st y = true) :
    y ∈ (processLeaf sys st x).pending ∨ isDone (processLeaf sys st x) y = true := by
  rw [isDone_processLeaf, mem_pending_processLeaf]
  rcases h with h | h
  · by_cases hc : y = x ∧ Completes sys st x
    · exact .inr (.inr hc)
    · exact .inl (.inl ⟨h, hc⟩)
  · exact .inr (.inl h)

theorem filterMap_eq_map_of {α β} {g : α → Option β} {v : α → β} :
    ∀ {l : List α}, (∀ a ∈ l, g a = some (v a)) → l.filterMap g = l.map v
  | [], _ => rfl
  | a :: l, h => by
    have ha := h a (List.mem_cons_self ..)
    have := filterMap_eq_map_of (g := g) (v := v) (l := l)
      (fun b hb => h b (List.mem_cons_of_mem _ hb))
    simp [ha, this]

def Correct (val : Nat → R) (st : St R) : Prop := ∀ p ∈ st.done, p.2 = val p.1

theorem Correct.lookupR {val : Nat → R} {st : St R} (hc : Correct val st) {x : Nat}
    (h : isDone st x = true) : lookupR x st.done = some (val x) := by
  obtain ⟨r, hr⟩ := Option.isSome_iff_exists.1 h
  rw [hr]
  exact congrArg some (hc _ (lookupR_some_mem hr))

theorem init_correct (val : Nat → R) (seeds : List Nat) : Correct val (init seeds) :=
  fun _ hp => nomatch hp

theorem processLeaf_correct {sys : Sys R} {val : Nat → R} (hval : IsSolution sys val)
    {st : St R} (hc : Correct val st) (x : Nat) : Correct val (processLeaf sys st x) := by
  rcases processLeaf_cases sys st x with ⟨hall, h⟩ | ⟨_, h⟩ <;> rw [h]
  · intro p hp
    rcases List.mem_cons.1 hp with rfl | hp
    · show sys.f x _ = val x
      rw [hval x, filterMap_eq_map_of fun d hd => hc.lookupR (hall d hd)]
    · exact hc p hp
  · exact hc

theorem nodup_eraseDups : ∀ l : List Nat, l.eraseDups.Nodup
  | [] => by simp
  | a :: l => by
    rw [List.eraseDups_cons, List.nodup_cons]
    refine ⟨?_, nodup_eraseDups _⟩
    rw [List.mem_eraseDups]
    simp
termination_by l => l.length
decreasing_by exact Nat.lt_succ_of_le (List.length_filter_le ..)

/-- what C20's safety results read off after any number of rounds, and what makes a finished run
complete exactly the reachable items (`inv_finished_covers`) -/
structure Inv (sys : Sys R) (seeds : List Nat) (st : St R) : Prop where
  pnodup : st.pending.Nodup
  disj : ∀ x ∈ st.pending, isDone st x = false
  dnodup : (st.done.map Prod.fst).Nodup
  closed : ∀ x, isDone st x = true → ∀ d ∈ sys.deps x, isDone st d = true
  reach : ∀ x, x ∈ st.pending ∨ isDone st x = true → Reach sys seeds x
  seeded : ∀ s ∈ seeds, s ∈ st.pending ∨ isDone st s = true

theorem init_inv (sys : Sys R) (seeds : List Nat) : Inv sys seeds (init seeds) where
  pnodup := nodup_eraseDups _
  disj := by
    intro x _
    simp [init, isDone, lookupR]
  dnodup := by simp [init]
  closed := by
    intro x h
    simp [init, isDone, lookupR] at h
  reach := by
    intro x h
    rcases h with h | h
    · exact .seed (by simpa [init, List.mem_eraseDups] using h)
    · simp [init, isDone, lookupR] at h
  seeded := by
    intro s hs
    left
    simpa [init, List.mem_eraseDups] using hs

theorem processLeaf_inv {sys : Sys R} {seeds : List Nat} {st : St R} {x : Nat}
    (inv : Inv sys seeds st) (hx : x ∈ st.pending) : Inv sys seeds (processLeaf sys st x) := by
  have hxd := inv.disj x hx
  refine ⟨?_, fun y hy => ?_, ?_, fun y hy d hd => ?_, fun y hy => ?_,
    fun s hs => known_processLeaf (inv.seeded s hs)⟩
  · rcases processLeaf_cases sys st x with ⟨_, h⟩ | ⟨_, h⟩ <;> rw [h]
    · exact inv.pnodup.filter _
    · refine List.nodup_append.2 ⟨inv.pnodup, nodup_eraseDups _, fun a ha b hb e => ?_⟩
      have := List.mem_eraseDups.1 hb
      simp [← e, ha] at this
  · rw [← Bool.not_eq_true, isDone_processLeaf]
    rcases mem_pending_processLeaf.1 hy with h | h
    · simp [inv.disj y h.1]
      exact fun e hc => h.2 ⟨e, hc⟩
    · simp [h.2.2, h.1]
  · rcases processLeaf_cases sys st x with ⟨_, h⟩ | ⟨_, h⟩ <;> rw [h]
    · exact List.nodup_cons.2 ⟨not_isDone_iff.1 hxd, inv.dnodup⟩
    · exact inv.dnodup
  · rw [isDone_processLeaf] at hy ⊢
    rcases hy with hy | ⟨rfl, hc⟩
    · exact .inl (inv.closed y hy d hd)
    · exact .inl (hc d hd)
  · rw [isDone_processLeaf, mem_pending_processLeaf] at hy
    rcases hy with (hy | hy) | hy | hy
    · exact inv.reach y (.inl hy.1)
    · exact .step (inv.reach x (.inl hx)) hy.2.1
    · exact inv.reach y (.inr hy)
    · exact hy.1 ▸ inv.reach x (.inl hx)

theorem foldl_processLeaf {sys : Sys R} {P : St R → Prop}
    (hP : ∀ st x, P st → P (processLeaf sys st x)) :
    ∀ (ls : List Nat) {st : St R}, P st → P (ls.foldl (processLeaf sys) st)
  | [], _, h => h
  | x :: ls, _, h => foldl_processLeaf hP ls (hP _ x h)

theorem rounds_preserves {sys : Sys R} {P : St R → Prop}
    (hP : ∀ st x, P st → P (processLeaf sys st x)) : ∀ (n : Nat) {st : St R}, P st → P (rounds sys n st)
  | 0, _, h => h
  | n + 1, _, h => rounds_preserves hP n (foldl_processLeaf hP _ h)

/-- the items offered in a round stay pending until their turn comes -/
theorem rounds_inv {sys : Sys R} {seeds : List Nat} :
    ∀ (n : Nat) {st : St R}, Inv sys seeds st → Inv sys seeds (rounds sys n st) := by
  have fold : ∀ (ls : List Nat) {st : St R}, ls.Nodup → (∀ y ∈ ls, y ∈ st.pending) →
      Inv sys seeds st → Inv sys seeds (ls.foldl (processLeaf sys) st) := by
    intro ls
    induction ls with
    | nil => exact fun _ _ i => i
    | cons x ls ih =>
      intro st hn hs i
      rw [List.nodup_cons] at hn
      exact ih hn.2 (fun y hy => mem_pending_processLeaf.2
          (.inl ⟨hs y (List.mem_cons_of_mem _ hy), fun e => hn.1 (e.1 ▸ hy)⟩))
        (processLeaf_inv i (hs x (List.mem_cons_self ..)))
  intro n
  induction n with
  | zero => exact id
  | succ n ih =>
    exact fun i => ih (fold (leaves _) (i.pnodup.filter _) (fun _ hy => (List.mem_filter.1 hy).1) i)

theorem rounds_correct {sys : Sys R} {val : Nat → R} (hval : IsSolution sys val) (n : Nat) {st : St R}
    (hc : Correct val st) : Correct val (rounds sys n st) :=
  rounds_preserves (P := Correct val) (fun _ x hc => processLeaf_correct hval hc x) n hc

theorem inv_finished_covers {sys : Sys R} {seeds : List Nat} {st : St R} (inv : Inv sys seeds st)
    (hfin : st.pending = []) {x : Nat} (hr : Reach sys seeds x) : isDone st x = true := by
  induction hr with
  | seed hs =>
    rcases inv.seeded _ hs with h | h
    · rw [hfin] at h
      cases h
    · exact h
  | step _ hd ih => exact inv.closed _ ih _ hd

theorem Reach.mono {sys : Sys R} {s₁ s₂ : List Nat} (h : ∀ x, x ∈ s₁ → x ∈ s₂) {x : Nat}
    (hr : Reach sys s₁ x) : Reach sys s₂ x := by
  induction hr with
  | seed hs => exact .seed (h _ hs)
  | step _ hd ih => exact .step ih hd

/-- the solution by fuel: `valF n x` is right as soon as `n` exceeds the rank of `x` -/
def valF [Inhabited R] (sys : Sys R) : Nat → Nat → R
  | 0, _ => default
  | n + 1, x => sys.f x ((sys.deps x).map (valF sys n))

theorem valF_stable [Inhabited R] {sys : Sys R} {rk : Nat → Nat} (hrk : IsRank sys rk) :
    ∀ (n m x : Nat), rk x < n → rk x < m → valF sys n x = valF sys m x
  | 0, _, _, h, _ => absurd h (Nat.not_lt_zero _)
  | _ + 1, 0, _, _, h => absurd h (Nat.not_lt_zero _)
  | n + 1, m + 1, x, hn, hm => by
    rw [valF, valF]
    refine congrArg _ (List.map_congr_left fun d hd => ?_)
    have := hrk x d hd
    exact valF_stable hrk n m d (Nat.lt_of_lt_of_le this (Nat.le_of_lt_succ hn))
      (Nat.lt_of_lt_of_le this (Nat.le_of_lt_succ hm))

theorem isSolution_valF [Inhabited R] {sys : Sys R} {rk : Nat → Nat} (hrk : IsRank sys rk) :
    IsSolution sys (fun x => valF sys (rk x + 1) x) := by
  intro x
  show sys.f x ((sys.deps x).map (valF sys (rk x))) =
    sys.f x ((sys.deps x).map fun d => valF sys (rk d + 1) d)
  exact congrArg _ (List.map_congr_left fun d hd =>
    valF_stable hrk (rk x) (rk d + 1) d (hrk x d hd) (Nat.lt_succ_self _))

/-- what the registered dependencies of an item are. `full`: an item has registered nothing yet, or
every reference of it is completed or registered; so an offered item that cannot complete is one
that has registered nothing -/
structure WInv (sys : Sys R) (st : St R) : Prop where
  full : ∀ x, waitsOf st x = [] ∨ ∀ d ∈ sys.deps x, isDone st d = true ∨ d ∈ waitsOf st x
  sub : ∀ x, ∀ d ∈ waitsOf st x, d ∈ sys.deps x ∧ (d ∈ st.pending ∨ isDone st d = true)

theorem init_winv (sys : Sys R) (seeds : List Nat) : WInv sys (init seeds : St R) where
  full := by
    intro x
    left
    simp [waitsOf, init]
  sub := by
    intro x d hd
    simp [waitsOf, init] at hd

theorem processLeaf_winv {sys : Sys R} {st : St R} (w : WInv sys st) (x : Nat) :
    WInv sys (processLeaf sys st x) := by
  constructor
  · intro y
    rw [waitsOf_processLeaf]
    split
    · subst y
      refine .inr fun d hd => ?_
      cases hdd : isDone st d
      · exact .inr (mem_missing.2 ⟨hd, hdd⟩)
      · exact .inl (isDone_processLeaf_mono hdd)
    · exact (w.full y).imp_right fun h d hd => (h d hd).imp_left isDone_processLeaf_mono
  · intro y d hd
    rw [waitsOf_processLeaf] at hd
    split at hd
    · obtain ⟨h1, h2⟩ := mem_missing.1 hd
      have hc : ¬ Completes sys st x := fun hc => by simp [hc d h1] at h2
      exact ⟨‹y = x› ▸ h1, .inl (mem_pending_processLeaf.2 (.inr ⟨hc, h1, h2⟩))⟩
    · exact ⟨(w.sub y d hd).1, known_processLeaf (w.sub y d hd).2⟩

theorem mem_leaves {st : St R} {x : Nat} :
    x ∈ leaves st ↔ x ∈ st.pending ∧ ∀ d ∈ waitsOf st x, isDone st d = true := by
  simp [leaves, List.mem_filter, List.all_eq_true]

/-- without cycles something pending is offered: follow unfinished registered dependencies downwards -/
theorem leaves_ne_nil {sys : Sys R} {st : St R} {rk : Nat → Nat} (hrk : IsRank sys rk) (w : WInv sys st) :
    ∀ (n x : Nat), rk x < n → x ∈ st.pending → leaves st ≠ []
  | n + 1, x, hn, hx => by
    by_cases hl : ∀ d ∈ waitsOf st x, isDone st d = true
    · exact List.ne_nil_of_mem (mem_leaves.2 ⟨hx, hl⟩)
    · obtain ⟨d, hd, hnd⟩ := Classical.not_forall.1 hl |>.imp fun _ => Classical.not_imp.1
      have hs := w.sub x d hd
      have := hrk x d hs.1
      exact leaves_ne_nil hrk w n d (by omega) (hs.2.resolve_right hnd)

def asked (st : St R) (u : Nat) : Bool := isDone st u || !(waitsOf st u).isEmpty

theorem asked_iff {st : St R} {u : Nat} :
    asked st u = true ↔ isDone st u = true ∨ waitsOf st u ≠ [] := by
  simp [asked]

/-- progress on `U`: every item is asked, then completed; both `isDone` and `asked` only ever turn
true, and processing an offered item turns one of them -/
def progress (U : List Nat) (st : St R) : Nat := U.countP (isDone st) + U.countP (asked st)

theorem progress_le (U : List Nat) (st : St R) : progress U st ≤ 2 * U.length := by
  have h1 := List.countP_le_length (p := isDone st) (l := U)
  have h2 := List.countP_le_length (p := asked st) (l := U)
  unfold progress
  omega

theorem countP_lt {p q : Nat → Bool} {x : Nat} {l : List Nat} (hx : x ∈ l)
    (hpq : ∀ u, p u = true → q u = true) (hp : p x = false) (hq : q x = true) :
    l.countP p < l.countP q := by
  have h := List.perm_cons_erase hx
  rw [h.countP_eq, h.countP_eq, List.countP_cons, List.countP_cons, hp, hq]
  exact Nat.lt_succ_of_le (List.countP_mono_left fun v _ => hpq v)

theorem asked_processLeaf {sys : Sys R} {st : St R} {x y : Nat} (h : asked st y = true) :
    asked (processLeaf sys st x) y = true := by
  rw [asked_iff] at h ⊢
  rw [isDone_processLeaf, waitsOf_processLeaf]
  by_cases hc : y = x ∧ Completes sys st x
  · exact .inl (.inr hc)
  · refine h.imp .inl fun hw => ?_
    split
    · exact mt missing_eq_nil.1 fun h => hc ⟨‹_›, h⟩
    · exact hw

theorem progress_processLeaf_le {sys : Sys R} (U : List Nat) (st : St R) (x : Nat) :
    progress U st ≤ progress U (processLeaf sys st x) :=
  Nat.add_le_add (List.countP_mono_left fun _ _ => isDone_processLeaf_mono)
    (List.countP_mono_left fun _ _ => asked_processLeaf)

theorem progress_processLeaf_lt {sys : Sys R} {st : St R} {x : Nat} {U : List Nat} (w : WInv sys st)
    (hl : x ∈ leaves st) (hnd : isDone st x = false) (hxU : x ∈ U) :
    progress U st < progress U (processLeaf sys st x) := by
  by_cases hc : Completes sys st x
  · exact Nat.add_lt_add_of_lt_of_le
      (countP_lt hxU (fun _ => isDone_processLeaf_mono) hnd (isDone_processLeaf.2 (.inr ⟨rfl, hc⟩)))
      (List.countP_mono_left fun _ _ => asked_processLeaf)
  · have hw : waitsOf st x = [] := (w.full x).resolve_right fun h => hc fun d hd =>
      (h d hd).elim id ((mem_leaves.1 hl).2 d)
    have hna : asked st x = false := Bool.eq_false_iff.2 fun h =>
      (asked_iff.1 h).elim (by simp [hnd]) (· hw)
    have hmiss : waitsOf (processLeaf sys st x) x ≠ [] := by
      rw [waitsOf_processLeaf, if_pos rfl]
      exact mt missing_eq_nil.1 hc
    exact Nat.add_lt_add_of_le_of_lt (List.countP_mono_left fun _ _ => isDone_processLeaf_mono)
      (countP_lt hxU (fun _ => asked_processLeaf) hna (asked_iff.2 (.inr hmiss)))

theorem rounds_of_fixed {sys : Sys R} {st : St R} (h : round sys st = st) :
    ∀ n, rounds sys n st = st
  | 0 => rfl
  | n + 1 => by
    rw [rounds, h]
    exact rounds_of_fixed h n

/-- a round with something pending makes progress at its first item already; the rest of the round
cannot undo it -/
theorem round_progress {sys : Sys R} {seeds U : List Nat} {rk : Nat → Nat} (hrk : IsRank sys rk)
    (hU : ∀ x, Reach sys seeds x → x ∈ U) {st : St R} (inv : Inv sys seeds st) (w : WInv sys st)
    (hp : st.pending ≠ []) : WInv sys (round sys st) ∧ progress U st < progress U (round sys st) := by
  obtain ⟨x, hx⟩ := List.exists_mem_of_ne_nil _ hp
  obtain ⟨y, ls, hl⟩ := List.exists_cons_of_ne_nil (leaves_ne_nil hrk w _ x (Nat.lt_succ_self _) hx)
  have hy := hl ▸ List.mem_cons_self (a := y) (l := ls)
  have hyp := (mem_leaves.1 hy).1
  rw [round, hl]
  exact foldl_processLeaf (P := fun st' => WInv sys st' ∧ progress U st < progress U st')
    (fun _ z h => ⟨processLeaf_winv h.1 z, Nat.lt_of_lt_of_le h.2 (progress_processLeaf_le ..)⟩) ls
    ⟨processLeaf_winv w y, progress_processLeaf_lt w hy (inv.disj y hyp) (hU y (inv.reach y (.inl hyp)))⟩

/-- `2 * U.length ≤ progress U st + n`: the count rises in every round with something pending and is
at most `2 * U.length` (`progress_le`), so `n` more rounds are enough -/
theorem rounds_finish {sys : Sys R} {seeds U : List Nat} {rk : Nat → Nat} (hrk : IsRank sys rk)
    (hU : ∀ x, Reach sys seeds x → x ∈ U) :
    ∀ (n : Nat) {st : St R}, Inv sys seeds st → WInv sys st → 2 * U.length ≤ progress U st + n →
      (rounds sys n st).pending = []
  | n, st, inv, w, hn => by
    by_cases hp : st.pending = []
    · rw [rounds_of_fixed (by simp [round, leaves, hp])]
      exact hp
    · have h1 := round_progress hrk hU inv w hp
      have := progress_le U (round sys st)
      match n with
      | 0 => omega
      | n + 1 =>
        have inv' : Inv sys seeds (round sys st) :=
          show Inv sys seeds (rounds sys 0 (round sys st)) from rounds_inv 1 inv
        exact rounds_finish hrk hU n inv' h1.1 (by omega)

end CapyV.OrderIndep
