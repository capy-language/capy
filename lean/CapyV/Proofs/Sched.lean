import CapyV.Proofs.Topo
import CapyV.Spec.SchedRounds
/-!
The round loop of `finish` against the specification: under `Inv`, what a round takes as `leaves` is
the specification's `expectedOffer`, and a script that is fresh with respect to those offers
(`scriptFresh` speaks of the specification's offers, never of the model's `roundLeaves`) is a legal
history, so `Inv` carries through every round.
-/
namespace CapyV.Sched
open CapyV.Topo CapyV.SchedSpec

theorem script_legal : ∀ (r : RoundScript) {a : Abs}, (r.map (·.1)).Nodup →
    (∀ x ∈ r.map (·.1), x ∈ a.pend ∧ x ∉ a.done) → depsFresh a.done r →
    ∃ a', after a (roundOps r) = some a' := by
  intro r
  induction r with
  | nil =>
    intro a _ _ _
    exact ⟨a, rfl⟩
  | cons e r ih =>
    intro a hn hp hf
    obtain ⟨x, dec⟩ := e
    simp only [List.map_cons, List.nodup_cons] at hn
    have hx := hp x (by simp)
    cases dec with
    | complete =>
      have hl : legal a (.remove x) = true := by simpa [legal] using hx.1
      simp only [roundOps, after, hl, if_true]
      refine ih hn.2 (fun y hy => ?_) hf
      have hy' := hp y (by simp [hy])
      have : y ≠ x := by
        rintro rfl
        exact hn.1 hy
      simpa [step, this] using hy'
    | needs ds =>
      simp only [depsFresh] at hf
      have hl : legal a (.deps x ds) = true := by
        simp only [legal, Bool.and_eq_true, decide_eq_true_eq, List.all_eq_true]
        exact ⟨hx.2, hf.1⟩
      simp only [roundOps, after, hl, if_true]
      have hdone : (step a (.deps x ds)).done = a.done := by
        simp only [step, regAll_done]
      refine ih hn.2 (fun y hy => ?_) (hdone ▸ hf.2)
      have hy' := hp y (by simp [hy])
      exact ⟨regAll_pend_mono ds a hy'.1, hdone ▸ hy'.2⟩

/-- `some _`: `peek_all_cyclic().unwrap()` does not panic; `≠ []`: `assert!(!leaves.is_empty())` holds -/
theorem roundLeaves_spec {a s} (hi : Inv a s) (hne : s ≠ []) :
    roundLeaves s = some (expectedOffer a) ∧ (expectedOffer a).1 ≠ [] ∧
      (expectedOffer a).1.Nodup ∧ ∀ x ∈ (expectedOffer a).1, x ∈ a.pend := by
  unfold roundLeaves expectedOffer
  rw [peekAll_eq, hi.cyclic_eq_inCycle]
  by_cases hc : inCycle s = true
  · simp only [hc, if_true, peekAllCyclic, hi.keys_eq]
    exact ⟨trivial, mt hi.eq_nil_iff.2 hne, hi.nodup, fun x hx => hx⟩
  · have hl : leaves s ≠ [] := fun h0 => hc ((inCycle_iff_leaves s).2 ⟨hne, h0⟩)
    simp only [hc, Bool.false_eq_true, if_false, ← hi.leaves_eq]
    exact ⟨trivial, hl, (leaves_sublist s).nodup hi.keys_nodup,
      fun x hx => hi.keys_eq ▸ (leaves_sublist s).subset hx⟩

theorem finishLoop_spec : ∀ (rs : List RoundScript) {a : Abs} {s : Topo} (n : Nat), Inv a s → s ≠ [] →
    scriptFresh a rs → (finishLoop s n rs).ok = true ∧ offers s rs = expectedOffers a rs := by
  intro rs
  induction rs with
  | nil =>
    intro a s n _ _ _
    exact ⟨rfl, rfl⟩
  | cons r rs ih =>
    intro a s n hi hne hf
    obtain ⟨hrl, hne', hnd, hsub⟩ := roundLeaves_spec hi hne
    obtain ⟨hperm, hfresh, hrest⟩ := hf
    have hp := List.isPerm_iff.1 hperm
    obtain ⟨a', ha'⟩ := script_legal r (hp.nodup_iff.2 hnd)
      (fun x hx => ⟨hsub x (hp.mem_iff.1 hx), hi.disj x (hsub x (hp.mem_iff.1 hx))⟩) hfresh
    obtain ⟨s', hs', hi'⟩ := inv_run hi _ ha'
    -- one round on both sides: the offer agrees (`hrl`), is non-empty, the script is a permutation of
    -- it, and model and history step to `s'`, `a'`, which are empty together
    simp only [finishLoop, offers, expectedOffers, hrl, List.isEmpty_eq_false_iff.2 hne', hperm, hs',
      ha', ← hi'.isEmpty_eq, Bool.false_eq_true, not_true_eq_false, if_false]
    by_cases he : s'.isEmpty = true
    · simp [he, Result.ok]
    · obtain ⟨h1, h2⟩ := ih (n + 1) hi' (mt List.isEmpty_iff.2 he) (hrest a' ha')
      simp only [he, Bool.false_eq_true, if_false]
      exact ⟨h1, by rw [h2]⟩

end CapyV.Sched
