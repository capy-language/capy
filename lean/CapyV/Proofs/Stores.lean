import CapyV.Model.Stores
import CapyV.Proofs.Layout
/-! Where the stores of `dst = value` fall (C02): the bytes `[0, n)`, and for a tagged union the payload bytes and
the tag byte, which is its last byte. -/
namespace CapyV.Stores
open CapyV CapyV.Layout

theorem whole_within (n : Nat) : within 0 n (whole n) := by
  unfold whole within
  split
  · simp
  · intro s hs
    simp at hs
    subst hs
    simp

/-- Payload bytes, then the tag byte: inside the destination as soon as the payload ends before the tag,
because the tag is the last byte (`size_of_discriminantOffset`). -/
theorem tagged_within {pw : Nat} {dst p : Ty} {d : Nat} (hd : discriminantOffsetOf pw dst = some d)
    (hp : size pw p ≤ d) : within 0 (size pw dst) (whole (size pw p) ++ [(d, 1)]) := by
  rw [size_of_discriminantOffset hd]
  intro s hs
  rcases List.mem_append.1 hs with h | h
  · have := whole_within _ s h; omega
  · cases List.mem_singleton.1 h
    simp

end CapyV.Stores
