import CapyV.Model.TyRel
/-! Equations of `can_fit_into` by the heads of its operands (each unfolds the whole match once,
with the negated earlier patterns in the context so that `simp` can pick the arm), and what C12 /
C13 need of `is_weak_replaceable_by` and `can_cast_to`.  Recursive facts are recursive theorems,
terminating on `Ty.nodes` like the relations themselves. -/
namespace CapyV.Ty

theorem canFitInto_refl (a : Ty) : canFitInto a a = true := by
  rw [canFitInto.eq_def]
  simp

theorem isMarker_fit : ∀ {a : Ty}, isMarker a = true → ∀ b, canFitInto a b = true
  | .unknown, _, b => by
    rw [canFitInto.eq_def]
    split <;> simp
  | .alwaysJumps, _, b => by
    by_cases h : Ty.alwaysJumps = b
    · rw [← h, canFitInto_refl]
    · by_cases h' : b = .unknown
      · rw [h', canFitInto.eq_def]
        simp
      · rw [canFitInto.eq_def]
        simp only [h, ↓reduceIte]

theorem not_marker {a : Ty} (h : isMarker a = false) : a ≠ .unknown ∧ a ≠ .alwaysJumps := by
  constructor <;> rintro rfl <;> cases h

theorem fit_into_unknown (a : Ty) : canFitInto a .unknown = true := by
  by_cases h : a = .unknown
  · rw [h, canFitInto_refl]
  · rw [canFitInto.eq_def]
    simp only [h, ↓reduceIte]

theorem fit_into_any (a : Ty) : canFitInto a .any = true := by
  cases hm : isMarker a
  · have ⟨_, _⟩ := not_marker hm
    by_cases h : a = .any
    · rw [h, canFitInto_refl]
    · rw [canFitInto.eq_def]
      simp only [h, ↓reduceIte]
  · exact isMarker_fit hm _

theorem fit_distinct_distinct (u u' : Nat) (s t : Ty) :
    canFitInto (.distinct u s) (.distinct u' t) = (u == u') := by
  -- `can_fit_into` opens with `if a = b then true`: equal operands first, here and below
  by_cases h : Ty.distinct u s = .distinct u' t
  · rw [h, canFitInto_refl]
    cases h
    simp
  · rw [canFitInto.eq_def]
    simp only [h, ↓reduceIte]

/-- No hypothesis on markers: both sides are `true` for them (likewise `fit_into_optional`,
`fit_into_errorUnion`). -/
theorem fit_into_distinct {a : Ty} (u : Nat) (t : Ty) (ha : ∀ u' s, a ≠ .distinct u' s) :
    canFitInto a (.distinct u t) = canFitInto a t := by
  cases hm : isMarker a
  · have ⟨_, _⟩ := not_marker hm
    rw [canFitInto.eq_def]
    simp only [ha, ↓reduceIte]
  · rw [isMarker_fit hm, isMarker_fit hm]

theorem fit_optional_optional (f e : Ty) : canFitInto (.optional f) (.optional e) = canFitInto f e := by
  by_cases h : f = e
  · rw [h, canFitInto_refl, canFitInto_refl]
  · rw [canFitInto.eq_def]
    simp only [optional.injEq, h, ↓reduceIte]

theorem fit_nil_optional (e : Ty) : canFitInto .nil (.optional e) = true := by
  rw [canFitInto.eq_def]
  simp only [reduceCtorEq, ↓reduceIte]

theorem fit_into_optional {a : Ty} (e : Ty) (ho : ∀ f, a ≠ .optional f) (hn : a ≠ .nil) :
    canFitInto a (.optional e) = canFitInto a e := by
  cases hm : isMarker a
  · have ⟨_, _⟩ := not_marker hm
    rw [canFitInto.eq_def]
    simp only [ho, ↓reduceIte]
  · rw [isMarker_fit hm, isMarker_fit hm]

theorem fit_errorUnion_errorUnion (fe fp ee ep : Ty) :
    canFitInto (.errorUnion fe fp) (.errorUnion ee ep) = (canFitInto fe ee && canFitInto fp ep) := by
  by_cases h : fe = ee ∧ fp = ep
  · rw [h.1, h.2, canFitInto_refl, canFitInto_refl, canFitInto_refl]
    rfl
  · rw [canFitInto.eq_def]
    simp only [errorUnion.injEq, h, ↓reduceIte]

theorem fit_into_errorUnion {a : Ty} (e p : Ty) (ha : ∀ e' p', a ≠ .errorUnion e' p') :
    canFitInto a (.errorUnion e p) = (canFitInto a e || canFitInto a p) := by
  cases hm : isMarker a
  · have ⟨_, _⟩ := not_marker hm
    rw [canFitInto.eq_def]
    simp only [ha, ↓reduceIte]
  · rw [isMarker_fit hm, isMarker_fit hm]
    rfl

theorem fit_variant_variant (eu n u d eu' n' u' d' : Nat) (s t : Ty) :
    canFitInto (.enumVariant eu n u s d) (.enumVariant eu' n' u' t d') = (u == u') := by
  by_cases h : Ty.enumVariant eu n u s d = .enumVariant eu' n' u' t d'
  · rw [h, canFitInto_refl]
    cases h
    simp
  · rw [canFitInto.eq_def]
    simp only [h, ↓reduceIte]

theorem fit_variant_enum (eu n u d uid : Nat) (s : Ty) (vs : Tys) :
    canFitInto (.enumVariant eu n u s d) (.enum uid vs) = (eu == uid) := by
  rw [canFitInto.eq_def]
  simp only [reduceCtorEq, ↓reduceIte]

theorem fit_struct_struct (u u' : Nat) (ms ns : Members) :
    canFitInto (.concreteStruct u ms) (.concreteStruct u' ns) = (u == u') := by
  by_cases h : Ty.concreteStruct u ms = .concreteStruct u' ns
  · rw [h, canFitInto_refl]
    cases h
    simp
  · rw [canFitInto.eq_def]
    simp only [h, ↓reduceIte]

theorem fit_anonStruct_struct (fm em : Members) (u : Nat) :
    canFitInto (.anonStruct fm) (.concreteStruct u em) =
      if fm.length != em.length then false else membersFitInto fm em && em.namesSubset fm := by
  rw [canFitInto.eq_def]
  simp only [reduceCtorEq, ↓reduceIte]

theorem fit_anonArray_array (n m : Nat) (f e : Ty) :
    canFitInto (.anonArray n f) (.concreteArray m e) = (n == m && canFitInto f e) := by
  rw [canFitInto.eq_def]
  simp only [reduceCtorEq, ↓reduceIte]

theorem fit_anonArray_slice (n : Nat) (f e : Ty) :
    canFitInto (.anonArray n f) (.slice e) = canFitInto f e := by
  rw [canFitInto.eq_def]
  simp only [reduceCtorEq, ↓reduceIte]

theorem fit_slice_slice (f e : Ty) :
    canFitInto (.slice f) (.slice e) = true ↔ f = e ∨ isFuncEquiv f e false = true := by
  by_cases h : f = e
  · rw [h, canFitInto_refl]
    simp
  · rw [canFitInto.eq_def]
    simp only [slice.injEq, h, ↓reduceIte, false_or]

theorem fit_pointer_pointer (fm em : Bool) (fs es : Ty) :
    canFitInto (.pointer fm fs) (.pointer em es) = true ↔ fm = em ∧ fs = es ∨ (mutOk fm em &&
      ((fs.mightBeWeak && isWeakReplaceableBy fs es) || isFuncEquiv fs es false)) = true := by
  by_cases h : fm = em ∧ fs = es
  · rw [h.1, h.2, canFitInto_refl]
    simp
  · rw [canFitInto.eq_def]
    simp only [pointer.injEq, h, ↓reduceIte, false_or]

-- in these names `i`, `u`, `f` stand for `iint`, `uint`, `float`, the found type first
theorem fit_ii (f e : Nat) : canFitInto (.iint f) (.iint e) = (e == 0 || decide (f ≤ e)) := by
  rw [canFitInto.eq_def]
  simp
  omega
theorem fit_uu (f e : Nat) : canFitInto (.uint f) (.uint e) = (e == 0 || decide (f ≤ e)) := by
  rw [canFitInto.eq_def]
  simp
  omega
theorem fit_ff (f e : Nat) : canFitInto (.float f) (.float e) = (e == 0 || decide (f ≤ e)) := by
  rw [canFitInto.eq_def]
  simp
  omega
theorem fit_ui (f e : Nat) : canFitInto (.uint f) (.iint e) = (e == 0 || decide (f < e)) := by
  rw [canFitInto.eq_def]
  simp
theorem fit_if (f e : Nat) : canFitInto (.iint f) (.float e) = (f == 0 || decide (f < e)) := by
  rw [canFitInto.eq_def]
  simp
theorem fit_uf (f e : Nat) : canFitInto (.uint f) (.float e) = (f == 0 || decide (f < e)) := by
  rw [canFitInto.eq_def]
  simp

/-- Expected types for which `can_fit_into` has no arm that the nominal found type `a` reaches: it
then answers with its last arm, `isFuncEquiv a b false`.  That one looks through a wrapper (a
distinct or variant type) on the left only with `lose`, and compares a named struct by `==` with
anything that is not a struct, a distinct or a variant type. -/
def noArmFor (a b : Ty) : Bool :=
  plainHead b ||
  match b with
  | .anonStruct _ => true
  | .concreteStruct .. => !isConcreteStruct a
  | .enum .. | .enumVariant .. => !isEnumVariant a
  | _ => false

theorem fit_nominal_last {a b : Ty} (ha : isNominal a = true) (h : noArmFor a b = true) :
    canFitInto a b = isFuncEquiv a b false := by
  rw [canFitInto.eq_def]
  cases a <;> cases ha <;> cases b <;> cases h <;> rfl

theorem isFuncEquiv_wrapper_left {a b : Ty} (ha : isNominal a = true)
    (hs : isConcreteStruct a = false) (h : noArmFor a b = true) : isFuncEquiv a b false = false := by
  rw [isFuncEquiv.eq_def]
  cases a <;> cases ha <;> cases hs <;> cases b <;> cases h <;> rfl

theorem isFuncEquiv_struct_left (u : Nat) (ms : Members) (b : Ty) :
    isFuncEquiv (.concreteStruct u ms) b false =
      match b with
      | .distinct _ t | .enumVariant _ _ _ t _ => isFuncEquiv (.concreteStruct u ms) t false
      | .concreteStruct _ ns | .anonStruct ns => ms.length == ns.length && membersFuncEquiv ms ns false
      | _ => false := by
  rw [isFuncEquiv.eq_def]
  cases b <;> rfl

theorem fit_wrapper_last {a b : Ty} (ha : isNominal a = true) (hs : isConcreteStruct a = false)
    (h : noArmFor a b = true) : canFitInto a b = false := by
  rw [fit_nominal_last ha h, isFuncEquiv_wrapper_left ha hs h]

theorem weak_distinct_false (u : Nat) (s b : Ty) : isWeakReplaceableBy (.distinct u s) b = false := by
  rw [isWeakReplaceableBy.eq_def]
  split
  -- no arm has a distinct type on the left; `(_, distinct)` and `(_, optional)` recurse
  all_goals first | rfl | contradiction | exact weak_distinct_false ..
termination_by b.nodes
decreasing_by all_goals (subst_vars; simp only [Ty.nodes]; omega)

theorem elemEquivFits_distinct (a : Ty) (u : Nat) (t : Ty) :
    elemEquivFits a (.distinct u t) = elemEquivFits a t := by
  rw [elemEquivFits]

theorem elemEquivFits_optional {a : Ty} (t : Ty) (ha : ∀ f, a ≠ .optional f) :
    elemEquivFits a (.optional t) = elemEquivFits a t := by
  -- `rw` leaves the side condition of the `(found, optional)` equation as the goal
  rw [elemEquivFits]
  exact ha

theorem weak_fit (a b : Ty) (hg : elemEquivFits a b = true) (h : isWeakReplaceableBy a b = true) :
    canFitInto a b = true := by
  rw [isWeakReplaceableBy.eq_def] at h
  split at h
  -- the six arms with a weak number on the left: width 0 meets every width condition
  iterate 6
    · simp [fit_ii, fit_uu, fit_ui, fit_if, fit_uf, fit_ff] <;> omega
  · -- anonymous array → array: weak element, or equivalent element that fits by the guard
    rename_i n fs m es
    simp only [elemEquivFits, Bool.and_eq_true, Bool.or_eq_true, Bool.not_eq_true'] at hg
    simp only [Bool.and_eq_true, Bool.or_eq_true] at h
    rw [fit_anonArray_array, Bool.and_eq_true]
    refine ⟨h.1, ?_⟩
    rcases h.2 with hw | hf
    · exact weak_fit fs es hg.2 hw
    · have hne : ¬isFuncEquiv fs es false = false := by
        rw [hf]
        nofun
      exact hg.1.resolve_left hne
  · rename_i n fs es
    simp only [elemEquivFits, Bool.and_eq_true, Bool.or_eq_true, Bool.not_eq_true'] at hg
    simp only [Bool.or_eq_true] at h
    rw [fit_anonArray_slice]
    rcases h with hw | hf
    · exact weak_fit fs es hg.2 hw
    · have hne : ¬isFuncEquiv fs es false = false := by
        rw [hf]
        nofun
      exact hg.1.resolve_left hne
  · exact (fit_slice_slice _ _).2 (.inr h)
  · simp only [Bool.and_eq_true] at h
    exact (fit_pointer_pointer ..).2 (.inr (by simp [h.1.1, h.1.2, h.2]))
  · exact h -- the two struct arms call `can_fit_into`
  · exact h
  · rename_i uid ty
    have ha : ∀ u' s, a ≠ .distinct u' s := by
      rintro u' s rfl
      rw [weak_distinct_false] at h
      cases h
    rw [fit_into_distinct _ _ ha]
    exact weak_fit a ty (elemEquivFits_distinct .. ▸ hg) h
  · rename_i fs es
    rw [fit_optional_optional]
    exact weak_fit fs es (by simpa only [elemEquivFits] using hg) h
  · rename_i es ho
    by_cases hn : a = .nil
    · rw [hn, fit_nil_optional]
    · rw [fit_into_optional _ ho hn]
      exact weak_fit a es (elemEquivFits_optional _ ho ▸ hg) h
  · rw [canFitInto.eq_def] -- `(NaivePolyFn, ConcreteFn)`: the same test in both
    simp_all
  · cases h
termination_by b.nodes
decreasing_by all_goals (subst_vars; simp only [Ty.nodes]; omega)

theorem canCastTo_of_fit {a b : Ty} (h : canFitInto a b = true) : canCastTo a b = true := by
  rw [canCastTo.eq_def]
  simp [h]

theorem canCastTo_refl (a : Ty) : canCastTo a a = true := canCastTo_of_fit (canFitInto_refl a)

theorem cast_distinct_distinct {u u' : Nat} {f t : Ty} (h : canCastTo f t = true) :
    canCastTo (.distinct u f) (.distinct u' t) = true := by
  rw [canCastTo.eq_def]
  split
  · rfl
  · exact h

theorem cast_from_distinct {f b : Ty} (u : Nat) (hb : ∀ u' t, b ≠ .distinct u' t)
    (h : canCastTo f b = true) : canCastTo (.distinct u f) b = true := by
  rw [canCastTo.eq_def]
  split
  · rfl
  · simp only
    exact h

theorem cast_distinct (u : Nat) (s : Ty) :
    canCastTo (.distinct u s) s = true ∧ canCastTo s (.distinct u s) = true := by
  by_cases hd : ∃ u' s', s = .distinct u' s'
  · -- a distinct of a distinct: strip one level on both sides
    obtain ⟨u', s', rfl⟩ := hd
    have ih := cast_distinct u' s'
    exact ⟨cast_distinct_distinct ih.1, cast_distinct_distinct ih.2⟩
  · have hd : ∀ u' s', s ≠ .distinct u' s' := fun u' s' h => hd ⟨u', s', h⟩
    exact ⟨cast_from_distinct u hd (canCastTo_refl s),
      canCastTo_of_fit (by rw [fit_into_distinct _ _ hd, canFitInto_refl])⟩
termination_by s.nodes
decreasing_by all_goals (subst_vars; simp only [Ty.nodes]; omega)

end CapyV.Ty
