import CapyV.Proofs.TyRel.Fit
/-! `max`: its equations by the heads of the operands, symmetry under `commOk`, and acceptance of
both operands under `maxPlain`.  As in `Fit.lean`, after `rw [maxTy.eq_def]` it is `simp only` that
picks the arm, discharging the negated earlier patterns from the context: hypotheses such as `hb` in
`maxFrom20_comm` and `hd`, `ho`, `hn` in `maxTy_side` are used although no tactic names them. -/
namespace CapyV.Ty

theorem maxNum_eq_max (x y : Nat) : maxNum x y = max x y := Nat.max_def.symm

theorem acceptsIn_of_fit {top : Bool} {x m : Ty} (h : canFitInto x m = true) :
    acceptsIn top x m = true := by
  simp [acceptsIn, h]

theorem maxFrom21_eq (a b : Ty) : maxFrom21 a b =
    if b = .type ∧ a.isZeroSized = true ∨ a = .type ∧ b.isZeroSized = true then .ok (some .type)
    else if isMarker a then .ok (some b) else if isMarker b then .ok (some a) else .ok none := by
  have h22 : maxFrom22 a b =
      if isMarker a then .ok (some b) else if isMarker b then .ok (some a) else .ok none := by
    -- the five arms against the chain, `isMarker` read off the (negated) patterns
    unfold maxFrom22
    split <;> simp_all [isMarker]
  unfold maxFrom21
  -- `(other, type)`, `(type, other)`, neither; `type` is not zero-sized, so at most one guard holds
  split <;> simp_all [isZeroSized]

theorem maxFrom21_comm {a b : Ty} (h : (isMarker a && isMarker b) = false) :
    maxFrom21 a b = maxFrom21 b a := by
  simp only [maxFrom21_eq, or_comm]
  cases ha : isMarker a <;> cases hb : isMarker b <;> simp_all

theorem maxFrom21_ok {top : Bool} {a b m : Ty} (hg : a = .type ∨ b = .type → top = true)
    (h : maxFrom21 a b = .ok (some m)) : acceptsIn top a m = true ∧ acceptsIn top b m = true := by
  rw [maxFrom21_eq] at h
  split at h
  · rename_i hc
    cases h
    rw [hg (hc.elim (.inr ·.1) (.inl ·.1))]
    rcases hc with ⟨rfl, hz⟩ | ⟨rfl, hz⟩ <;> simp [acceptsIn, hz, canFitInto_refl]
  · split at h
    · rename_i hm
      cases h
      exact ⟨acceptsIn_of_fit (isMarker_fit hm _), acceptsIn_of_fit (canFitInto_refl _)⟩
    · split at h
      · rename_i hm
        cases h
        exact ⟨acceptsIn_of_fit (canFitInto_refl _), acceptsIn_of_fit (isMarker_fit hm _)⟩
      · cases h

/-- arm 20 is only reached when not both operands are error unions (`he`) -/
theorem maxFrom20_comm {a b : Ty} (h : (isMarker a && isMarker b) = false)
    (he : ∀ e p e' p', a = .errorUnion e p → b = .errorUnion e' p' → False) :
    maxFrom20 a b = maxFrom20 b a := by
  have h21 := maxFrom21_comm h
  unfold maxFrom20
  split
  · have hb : ∀ e' p', b = .errorUnion e' p' → False := fun _ _ => he _ _ _ _ rfl
    simp only [h21]
  · simp only [h21]
  · exact h21

theorem maxFrom20_ok {top : Bool} {a b m : Ty} (hg : a = .type ∨ b = .type → top = true)
    (he : ∀ e p e' p', a = .errorUnion e p → b = .errorUnion e' p' → False)
    (h : maxFrom20 a b = .ok (some m)) : acceptsIn top a m = true ∧ acceptsIn top b m = true := by
  unfold maxFrom20 at h
  split at h
  · split at h
    · cases h
      refine ⟨acceptsIn_of_fit (canFitInto_refl _), acceptsIn_of_fit ?_⟩
      rwa [fit_into_errorUnion _ _ fun _ _ => he _ _ _ _ rfl]
    · exact maxFrom21_ok hg h
  · split at h
    · cases h
      refine ⟨acceptsIn_of_fit ?_, acceptsIn_of_fit (canFitInto_refl _)⟩
      rwa [fit_into_errorUnion _ _ fun _ _ hx => he _ _ _ _ hx rfl]
    · exact maxFrom21_ok hg h
  · exact maxFrom21_ok hg h

/-- Three heads select an arm of `max` whatever the other operand is.  Where both operands have
such a head the arms are tried in this order, `(_, Distinct)` before `(Distinct, _)`; two
optionals have an arm of their own. -/
def maxRank : Ty → Nat
  | .distinct _ _ => 3
  | .optional _ => 2
  | .nil => 1
  | _ => 0

/-- the answer of the arm selected by the head of `s`, the other operand being `x`, on either side;
meant only for `maxRank x < maxRank s`: the last arm is that of `nil` -/
def maxSide (s x : Ty) : MaxOut :=
  match s with
  | .distinct _ _ => if hasSemanticsOf s x then .ok (some s) else .ok none
  | .optional t => if x = .nil ∨ canFitInto x t = true then .ok (some s) else maxFrom20 s x
  | _ => .ok (some (.optional x))

/-- pairs of heads with an arm of their own (besides two optionals) -/
def maxPaired : Ty → Ty → Bool
  | .iint _, .iint _ | .iint _, .uint _ | .iint _, .float _
  | .uint _, .iint _ | .uint _, .uint _ | .uint _, .float _
  | .float _, .iint _ | .float _, .uint _ | .float _, .float _
  | .enumVariant .., .enumVariant .. | .enumVariant .., .enum .. | .enum .., .enumVariant ..
  | .errorUnion .., .errorUnion .. => true
  | _, _ => false

theorem maxRank_cases (a : Ty) :
    (∃ u s, a = .distinct u s ∧ maxRank a = 3) ∨ (∃ s, a = .optional s ∧ maxRank a = 2) ∨
    a = .nil ∧ maxRank a = 1 ∨ maxRank a = 0 := by
  cases a
  case distinct => exact .inl ⟨_, _, rfl, rfl⟩
  case optional => exact .inr (.inl ⟨_, rfl, rfl⟩)
  case nil => exact .inr (.inr (.inl ⟨rfl, rfl⟩))
  all_goals exact .inr (.inr (.inr rfl))

theorem maxRank_eq_cases {a b : Ty} (h : maxRank a = maxRank b) :
    (∃ u s u' s', a = .distinct u s ∧ b = .distinct u' s') ∨
    (∃ l r, a = .optional l ∧ b = .optional r) ∨ a = .nil ∧ b = .nil ∨
    maxRank a = 0 ∧ maxRank b = 0 := by
  rcases maxRank_cases a with ⟨_, _, ea, ha⟩ | ⟨_, ea, ha⟩ | ⟨ea, ha⟩ | ha <;>
  rcases maxRank_cases b with ⟨_, _, eb, hb⟩ | ⟨_, eb, hb⟩ | ⟨eb, hb⟩ | hb <;>
  -- different heads have different ranks, and two ranks 0 are the last disjunct
  try omega
  · exact .inl ⟨_, _, _, _, ea, eb⟩
  · exact .inr (.inl ⟨_, _, ea, eb⟩)
  · exact .inr (.inr (.inl ⟨ea, eb⟩))

/-- the signed/unsigned arms of `max` as one function of the widths: the weak pair `(0, 0)`, then the
general arm.  Written with the tests of the arms themselves, as `maxIntFloat` is, so that once the
widths are split into `0` / `n + 1` each equation below holds by unfolding. -/
def maxIntUint (sw uw : Nat) : MaxOut :=
  if sw = 0 ∧ uw = 0 then .ok (some (.iint 0)) else if uw < sw then .ok (some (.iint sw)) else .ok none

/-- the integer/float arms of `max`: the weak integer (`iw = 0`), then the general arm -/
def maxIntFloat (iw fw : Nat) : MaxOut :=
  if iw = 0 then .ok (some (.float fw))
  else if iw < 64 && fw == 0 then .ok (some (.float (maxNum (iw * 2) 32)))
  else if iw < fw then .ok (some (.float fw))
  else .ok none

section
variable {tbl : Nat → Option Ty}

theorem maxTy_self (a : Ty) : maxTy tbl a a = .ok (some a) := by
  rw [maxTy.eq_def]
  simp

theorem maxTy_distinct_right {a : Ty} {u : Nat} {t : Ty} (hab : a ≠ .distinct u t) :
    maxTy tbl a (.distinct u t) = maxSide (.distinct u t) a := by
  rw [maxTy.eq_def]
  simp only [hab, ↓reduceIte]
  rfl

theorem maxTy_side {s x : Ty} (h : maxRank x < maxRank s) :
    maxTy tbl s x = maxSide s x ∧ maxTy tbl x s = maxSide s x := by
  have hsx : s ≠ x := by
    rintro rfl
    exact Nat.lt_irrefl _ h
  have hxs := hsx.symm
  have hd : ∀ u t, x ≠ .distinct u t := by
    rintro _ _ rfl
    cases s <;> simp [maxRank] at h
  cases s <;> try (exact absurd h (Nat.not_lt_zero _))
  case distinct u t =>
    constructor
    · rw [maxTy.eq_def]
      simp only [hsx, ↓reduceIte]
      rfl
    · exact maxTy_distinct_right hxs
  case optional t =>
    have ho : ∀ f, x ≠ .optional f := by
      rintro _ rfl
      exact Nat.lt_irrefl _ h
    by_cases hn : x = .nil
    · subst hn
      constructor <;> (rw [maxTy.eq_def]; simp [maxSide])
    · constructor <;> rw [maxTy.eq_def] <;> simp only [hsx, hxs, ↓reduceIte, maxSide, hn, false_or]
      -- in the second component the guard fails into `maxFrom20 x s`, operands in the other order
      rw [maxFrom20_comm (by simp [isMarker]) (by rintro _ _ _ _ _ ⟨⟩)]
  case nil =>
    have ho : ∀ f, x ≠ .optional f := by
      rintro _ rfl
      simp [maxRank] at h
    have hn : x ≠ .nil := by
      rintro rfl
      simp [maxRank] at h
    constructor <;> (rw [maxTy.eq_def]; simp only [hsx, hxs, ↓reduceIte, maxSide])

theorem maxTy_optional_optional (l r : Ty) :
    maxTy tbl (.optional l) (.optional r) =
      match maxTy tbl l r with
      | .ok (some m) => .ok (some (.optional m))
      | o => o := by
  by_cases h : l = r
  · rw [h, maxTy_self, maxTy_self]
  · rw [maxTy.eq_def]
    simp only [optional.injEq, h, ↓reduceIte]
    split <;> simp [*]

theorem maxTy_errorUnion_errorUnion (le lp re rp : Ty) :
    maxTy tbl (.errorUnion le lp) (.errorUnion re rp) =
      match maxTy tbl le re, maxTy tbl lp rp with
      | .ok (some e), .ok (some p) => .ok (some (.errorUnion e p))
      | .ok (some _), r => r
      | r, _ => r := by
  by_cases h : le = re ∧ lp = rp
  · rw [h.1, h.2, maxTy_self, maxTy_self, maxTy_self]
  · rw [maxTy.eq_def]
    simp only [errorUnion.injEq, h, ↓reduceIte]
    split <;> simp [*]
    split <;> simp [*]

theorem maxTy_variant_variant {eu n u d eu' n' u' d' : Nat} {s s' : Ty}
    (h : Ty.enumVariant eu n u s d ≠ .enumVariant eu' n' u' s' d') :
    maxTy tbl (.enumVariant eu n u s d) (.enumVariant eu' n' u' s' d') =
      if eu = eu' then (match tbl eu with | some e => .ok (some e) | none => .panic)
      else if s.isZeroSized && s'.isZeroSized then .ok (some .type) else .ok none := by
  rw [maxTy.eq_def]
  simp only [h, ↓reduceIte, beq_iff_eq, isZeroSized]
  rfl

theorem maxTy_variant_enum (eu n u d uid : Nat) (s : Ty) (vs : Tys) :
    let r := if eu = uid then .ok (some (.enum uid vs))
      else maxFrom20 (.enumVariant eu n u s d) (.enum uid vs)
    maxTy tbl (.enumVariant eu n u s d) (.enum uid vs) = r ∧
      maxTy tbl (.enum uid vs) (.enumVariant eu n u s d) = r := by
  constructor <;> rw [maxTy.eq_def] <;> simp only [reduceCtorEq, ↓reduceIte, beq_iff_eq]
  -- the second component falls into `maxFrom20` with the operands in the other order
  rw [maxFrom20_comm rfl (by rintro _ _ _ _ ⟨⟩)]

theorem maxNum_self (x : Nat) : maxNum x x = x := if_pos (Nat.le_refl x)

/-! The numeric arms.  `max` tests `a = b` first and then matches widths against the literal `0`:
with both widths split into `0` / `n + 1` the `match` computes, and only the test `a = b` between two
positive widths of the same kind is left to be decided (`if_neg`).  In the names `i`, `u`, `f` stand
for `iint`, `uint`, `float`, the left operand first. -/

theorem maxTy_ii (x y : Nat) : maxTy tbl (.iint x) (.iint y) = .ok (some (.iint (maxNum x y))) := by
  by_cases h : x = y
  · rw [h, maxTy_self, maxNum_self]
  · have hne : Ty.iint x ≠ .iint y := fun e => h (iint.inj e)
    cases x <;> cases y
    · exact absurd rfl h
    · rfl
    · rfl
    · exact if_neg hne
theorem maxTy_uu (x y : Nat) : maxTy tbl (.uint x) (.uint y) = .ok (some (.uint (maxNum x y))) := by
  by_cases h : x = y
  · rw [h, maxTy_self, maxNum_self]
  · have hne : Ty.uint x ≠ .uint y := fun e => h (uint.inj e)
    cases x <;> cases y
    · exact absurd rfl h
    · rfl
    · rfl
    · exact if_neg hne
theorem maxTy_ff (x y : Nat) : maxTy tbl (.float x) (.float y) = .ok (some (.float (maxNum x y))) := by
  by_cases h : x = y
  · rw [h, maxTy_self, maxNum_self]
  · exact if_neg fun e => h (float.inj e)
theorem maxTy_iu (x y : Nat) : maxTy tbl (.iint x) (.uint y) = maxIntUint x y := by
  cases x <;> cases y <;> rfl
theorem maxTy_ui (x y : Nat) : maxTy tbl (.uint y) (.iint x) = maxIntUint x y := by
  cases x <;> cases y <;> rfl
theorem maxTy_if (x y : Nat) : maxTy tbl (.iint x) (.float y) = maxIntFloat x y := by
  cases x <;> rfl
theorem maxTy_fi (x y : Nat) : maxTy tbl (.float y) (.iint x) = maxIntFloat x y := by
  cases x <;> rfl
theorem maxTy_uf (x y : Nat) : maxTy tbl (.uint x) (.float y) = maxIntFloat x y := by
  cases x <;> rfl
theorem maxTy_fu (x y : Nat) : maxTy tbl (.float y) (.uint x) = maxIntFloat x y := by
  cases x <;> rfl

theorem maxTy_fallback {a b : Ty} (hab : a ≠ b) (ha : maxRank a = 0) (hb : maxRank b = 0)
    (h : maxPaired a b = false) : maxTy tbl a b = maxFrom20 a b := by
  rw [maxTy.eq_def]
  simp only [hab, ↓reduceIte]
  split
  -- every arm but the last has a paired head (`h`) or a head of positive rank (`ha`, `hb`)
  all_goals first | rfl | exact Bool.noConfusion h | exact Nat.noConfusion ha | exact Nat.noConfusion hb

theorem commOk_self (a : Ty) : commOk a a = true := by
  unfold commOk
  simp

theorem commOk_optional (l r : Ty) : commOk (.optional l) (.optional r) = commOk l r := by
  by_cases h : l = r
  · rw [h, commOk_self, commOk_self]
  · rw [commOk]
    simp [h]

theorem commOk_errorUnion (le lp re rp : Ty) :
    commOk (.errorUnion le lp) (.errorUnion re rp) = (commOk le re && commOk lp rp) := by
  by_cases h : le = re ∧ lp = rp
  · rw [h.1, h.2, commOk_self, commOk_self, commOk_self]
    rfl
  · rw [commOk]
    simp [h]

theorem commOk_distinct {u u' : Nat} {s t : Ty} (hg : commOk (.distinct u s) (.distinct u' t) = true)
    (hne : Ty.distinct u s ≠ .distinct u' t) : u ≠ u' := by
  rw [commOk] at hg
  simpa [hne] using hg

theorem commOk_markers {a b : Ty} (hg : commOk a b = true) (hne : a ≠ b) :
    (isMarker a && isMarker b) = false := by
  cases ha : isMarker a
  · rfl
  cases hb : isMarker b
  · rfl
  exfalso
  cases a <;> cases ha <;> cases b <;> cases hb <;> first | exact hne rfl | cases hg

theorem hasSem_distinct_distinct {u u' : Nat} (s t : Ty) (h : u ≠ u') :
    hasSemanticsOf (.distinct u s) (.distinct u' t) = false := by
  rw [hasSemanticsOf.eq_def]
  simp [h, fit_distinct_distinct]

theorem maxPaired_swap {a b : Ty} (h : maxPaired b a = true) : maxPaired a b = true := by
  unfold maxPaired at h
  split at h <;> first | rfl | cases h

theorem maxTy_comm (a b : Ty) (hg : commOk a b = true) : maxTy tbl a b = maxTy tbl b a := by
  by_cases hab : a = b
  · rw [hab]
  have hba : b ≠ a := Ne.symm hab
  have hm := commOk_markers hg hab
  rcases Nat.lt_trichotomy (maxRank a) (maxRank b) with hr | hr | hr
  · rw [(maxTy_side hr).1, (maxTy_side hr).2]
  · rcases maxRank_eq_cases hr with ⟨u, s, u', s', rfl, rfl⟩ | ⟨l, r, rfl, rfl⟩ | ⟨rfl, rfl⟩ | ⟨ha, hb⟩
    · -- two distinct types: different uids by the guard, so neither has the semantics of the other
      have hu := commOk_distinct hg hab
      rw [maxTy_distinct_right hab, maxTy_distinct_right hba]
      simp only [maxSide, hasSem_distinct_distinct _ _ hu, hasSem_distinct_distinct _ _ (Ne.symm hu)]
      rfl
    · rw [commOk_optional] at hg
      rw [maxTy_optional_optional, maxTy_optional_optional, maxTy_comm l r hg]
    · exact (hab rfl).elim
    · cases hp : maxPaired a b
      · have hp' : maxPaired b a = false := Bool.eq_false_iff.2 fun h => by
          rw [maxPaired_swap h] at hp
          cases hp
        have hee : ∀ e p e' p', a = .errorUnion e p → b = .errorUnion e' p' → False := by
          rintro _ _ _ _ rfl rfl
          cases hp
        rw [maxTy_fallback hab ha hb hp, maxTy_fallback hba hb ha hp', maxFrom20_comm hm hee]
      · unfold maxPaired at hp
        -- the cases come in the order of `maxPaired`'s alternatives
        split at hp
        iterate 9
          · simp only [maxTy_ii, maxTy_uu, maxTy_ff, maxTy_iu, maxTy_ui, maxTy_if, maxTy_fi,
              maxTy_uf, maxTy_fu, maxNum_eq_max, Nat.max_comm]
        · rename_i eu _ _ _ _ eu' _ _ _ _
          rw [maxTy_variant_variant hab, maxTy_variant_variant hba]
          by_cases he : eu = eu'
          · simp only [he, ↓reduceIte]
          · simp only [he, Ne.symm he, ↓reduceIte, Bool.and_comm]
        · rw [(maxTy_variant_enum ..).1, (maxTy_variant_enum ..).2]
        · rw [(maxTy_variant_enum ..).1, (maxTy_variant_enum ..).2]
        · rw [commOk_errorUnion, Bool.and_eq_true] at hg
          rw [maxTy_errorUnion_errorUnion, maxTy_errorUnion_errorUnion, maxTy_comm _ _ hg.1,
            maxTy_comm _ _ hg.2]
        · cases hp
  · rw [(maxTy_side hr).1, (maxTy_side hr).2]
termination_by a.nodes
decreasing_by all_goals (subst_vars; simp only [Ty.nodes]; omega)

theorem yieldsTypeArm_type {a b : Ty} (h : a = .type ∨ b = .type) : yieldsTypeArm a b = true := by
  rcases h with rfl | rfl
  · cases b <;> rfl
  · simp [yieldsTypeArm]

theorem maxPlain_guard {top : Bool} {a b : Ty} (hg : maxPlain top a b = true) :
    isDistinct a = false ∧ isDistinct b = false ∧ (yieldsTypeArm a b = true → top = true) := by
  unfold maxPlain at hg
  split at hg
  · exact ⟨rfl, rfl, nofun⟩
  · exact ⟨rfl, rfl, nofun⟩
  · simp only [Bool.and_eq_true, Bool.or_eq_true, Bool.not_eq_true'] at hg
    have hne (ht : yieldsTypeArm a b = true) : ¬yieldsTypeArm a b = false := by
      rw [ht]
      nofun
    exact ⟨hg.1.1, hg.1.2, fun ht => hg.2.resolve_right (hne ht)⟩

theorem maxIntUint_ok {sw uw : Nat} {m : Ty} (h : maxIntUint sw uw = .ok (some m)) :
    canFitInto (.iint sw) m = true ∧ canFitInto (.uint uw) m = true := by
  unfold maxIntUint at h
  split at h
  · cases h
    simp [fit_ii, fit_ui]
  · split at h
    · cases h
      simp [fit_ii, fit_ui]
      omega
    · cases h

theorem maxIntFloat_ok {iw fw : Nat} {m : Ty} (h : maxIntFloat iw fw = .ok (some m)) :
    canFitInto (.iint iw) m = true ∧ canFitInto (.uint iw) m = true ∧
      canFitInto (.float fw) m = true := by
  unfold maxIntFloat at h
  split at h
  · cases h
    simp [fit_if, fit_uf, fit_ff, *]
  · split at h
    · cases h
      simp_all [fit_if, fit_uf, fit_ff, maxNum]
      split <;> omega
    · split at h
      · cases h
        simp [fit_if, fit_uf, fit_ff, *]
      · cases h

theorem maxSide_ok {top : Bool} {s x m : Ty} (hr : maxRank x < maxRank s) (hs : isDistinct s = false)
    (hg : s = .type ∨ x = .type → top = true) (h : maxSide s x = .ok (some m)) :
    acceptsIn top s m = true ∧ acceptsIn top x m = true := by
  have ho : ∀ f, x ≠ .optional f := by
    rintro _ rfl
    cases s <;> simp [maxRank] at hr <;> cases hs
  cases s <;> try (exact absurd hr (Nat.not_lt_zero _))
  case distinct => cases hs
  case optional t =>
    simp only [maxSide] at h
    split at h
    · rename_i hc
      cases h
      refine ⟨acceptsIn_of_fit (canFitInto_refl _), acceptsIn_of_fit ?_⟩
      by_cases hn : x = .nil
      · rw [hn, fit_nil_optional]
      · rw [fit_into_optional _ ho hn]
        exact hc.resolve_left hn
    · exact maxFrom20_ok hg (by rintro _ _ _ _ ⟨⟩) h
  case nil =>
    cases h
    refine ⟨acceptsIn_of_fit (fit_nil_optional _), acceptsIn_of_fit ?_⟩
    have hn : x ≠ .nil := by
      rintro rfl
      exact Nat.lt_irrefl _ hr
    rw [fit_into_optional _ ho hn, canFitInto_refl]

theorem maxTy_accepts (htbl : TableOk tbl) (top : Bool) (a b m : Ty)
    (hg : maxPlain top a b = true) (h : maxTy tbl a b = .ok (some m)) :
    acceptsIn top a m = true ∧ acceptsIn top b m = true := by
  have fits {x y : Ty} (hx : canFitInto x m = true) (hy : canFitInto y m = true) :
      acceptsIn top x m = true ∧ acceptsIn top y m = true :=
    ⟨acceptsIn_of_fit hx, acceptsIn_of_fit hy⟩
  by_cases hab : a = b
  · subst hab
    rw [maxTy_self] at h
    cases h
    exact fits (canFitInto_refl _) (canFitInto_refl _)
  have ⟨hda, hdb, hy⟩ := maxPlain_guard hg
  have hty : a = .type ∨ b = .type → top = true := hy ∘ yieldsTypeArm_type
  rcases Nat.lt_trichotomy (maxRank a) (maxRank b) with hr | hr | hr
  · rw [(maxTy_side hr).2] at h
    exact (maxSide_ok hr hdb (hty ∘ Or.symm) h).symm
  · rcases maxRank_eq_cases hr with ⟨u, s, u', s', rfl, rfl⟩ | ⟨l, r, rfl, rfl⟩ | ⟨rfl, rfl⟩ | ⟨ha, hb⟩
    · cases hda
    · rw [maxTy_optional_optional] at h
      split at h
      · rename_i m' hm'
        cases h
        have ih := maxTy_accepts htbl false l r m' hg hm'
        simp only [acceptsIn, Bool.false_and, Bool.false_or] at ih
        exact fits (by rw [fit_optional_optional, ih.1]) (by rw [fit_optional_optional, ih.2])
      · rename_i hx
        exact (hx _ h).elim
    · exact (hab rfl).elim
    · cases hp : maxPaired a b
      · have hee : ∀ e p e' p', a = .errorUnion e p → b = .errorUnion e' p' → False := by
          rintro _ _ _ _ rfl rfl
          cases hp
        rw [maxTy_fallback hab ha hb hp] at h
        exact maxFrom20_ok hty hee h
      · unfold maxPaired at hp
        -- the cases come in the order of `maxPaired`'s alternatives
        split at hp
        · rw [maxTy_ii] at h
          cases h
          exact fits (by simp [fit_ii, maxNum_eq_max, Nat.le_max_left])
            (by simp [fit_ii, maxNum_eq_max, Nat.le_max_right])
        · rw [maxTy_iu] at h
          exact fits (maxIntUint_ok h).1 (maxIntUint_ok h).2
        · rw [maxTy_if] at h
          exact fits (maxIntFloat_ok h).1 (maxIntFloat_ok h).2.2
        · rw [maxTy_ui] at h
          exact fits (maxIntUint_ok h).2 (maxIntUint_ok h).1
        · rw [maxTy_uu] at h
          cases h
          exact fits (by simp [fit_uu, maxNum_eq_max, Nat.le_max_left])
            (by simp [fit_uu, maxNum_eq_max, Nat.le_max_right])
        · rw [maxTy_uf] at h
          exact fits (maxIntFloat_ok h).2.1 (maxIntFloat_ok h).2.2
        · rw [maxTy_fi] at h
          exact fits (maxIntFloat_ok h).2.2 (maxIntFloat_ok h).1
        · rw [maxTy_fu] at h
          exact fits (maxIntFloat_ok h).2.2 (maxIntFloat_ok h).2.1
        · rw [maxTy_ff] at h
          cases h
          exact fits (by simp [fit_ff, maxNum_eq_max, Nat.le_max_left])
            (by simp [fit_ff, maxNum_eq_max, Nat.le_max_right])
        · rw [maxTy_variant_variant hab] at h
          split at h
          · split at h
            · rename_i e he
              cases h
              obtain ⟨vs, rfl⟩ := htbl _ _ he
              subst_vars
              exact fits (by simp [fit_variant_enum]) (by simp [fit_variant_enum])
            · cases h
          · split at h
            · rename_i hne hz
              cases h
              simp only [Bool.and_eq_true] at hz
              rw [hy (by simpa [yieldsTypeArm] using hne)]
              simp [acceptsIn, isZeroSized, hz.1, hz.2]
            · cases h
        · rw [(maxTy_variant_enum ..).1] at h
          split at h
          · cases h
            subst_vars
            exact fits (by simp [fit_variant_enum]) (canFitInto_refl _)
          · exact maxFrom20_ok hty nofun h
        · rw [(maxTy_variant_enum ..).2] at h
          split at h
          · cases h
            subst_vars
            exact fits (canFitInto_refl _) (by simp [fit_variant_enum])
          · exact (maxFrom20_ok (hty ∘ Or.symm) nofun h).symm
        · rename_i le lp re rp
          rw [maxTy_errorUnion_errorUnion] at h
          simp only [maxPlain, Bool.and_eq_true] at hg
          split at h
          · rename_i e p he hp'
            cases h
            have h1 := maxTy_accepts htbl false le re e hg.1 he
            have h2 := maxTy_accepts htbl false lp rp p hg.2 hp'
            simp only [acceptsIn, Bool.false_and, Bool.false_or] at h1 h2
            have fa : canFitInto (.errorUnion le lp) (.errorUnion e p) = true := by
              rw [fit_errorUnion_errorUnion, h1.1, h2.1]
              rfl
            have fb : canFitInto (.errorUnion re rp) (.errorUnion e p) = true := by
              rw [fit_errorUnion_errorUnion, h1.2, h2.2]
              rfl
            exact fits fa fb
          · rename_i hx
            exact (hx _ h).elim
          · rename_i hx _
            exact (hx _ h).elim
        · cases hp
  · rw [(maxTy_side hr).1] at h
    exact maxSide_ok hr hda hty h
termination_by a.nodes
decreasing_by all_goals (subst_vars; simp only [Ty.nodes]; omega)

end
end CapyV.Ty
