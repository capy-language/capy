import CapyV.Proofs.Defer.Sim
import CapyV.Proofs.Defer.Total
/-! Whole programs; `registeredBodies` and `Stmts.append`, which the statements of C03's corollaries
mention, and the facts about the structural semantics those corollaries use. -/
namespace CapyV.Defer

theorem compileProgram_isSome (body : Stmts) (hw : contScoped body [(0, false)] = true) :
    (compileProgram body).isSome = true := by
  have hT := compileDeferred_total (deferDepth body)
  -- `X = []` (`.inl rfl`): a jump may run off the end of the stack, so its label needs no frame
  obtain ⟨tb, ex, h⟩ := closeBlock_of_tot_stmts (fr := []) hT
    (tot_stmts _ _ hT [] body [(0, false)] (some 0) [] []
      hw (.inl rfl) (Bodies.push Bodies.nil (some 0)) (Nat.le_refl _))
  simp only [compileProgram, h, Option.isSome_some]

theorem compileProgram_sound (fuel : Nat) (body : Stmts) (oracle : List Bool)
    (hw : contScoped body [(0, false)] = true) (t : T) (hc : compileProgram body = some t) :
    (execT fuel t { trace := [], oracle }).2.trace.reverse = runSpec fuel body oracle := by
  simp only [compileProgram] at hc
  split at hc
  · cases hc
  rename_i tb ex hcl
  cases hc
  have hE := compileDeferred_ok fuel (deferDepth body)
  rw [runSpec, execT_block, execS_block, blockT_sim hE _ _ Bodies.nil hcl
    (sim_stmts fuel _ hE body [(0, false)] (some 0) [] [] hw (Bodies.push Bodies.nil (some 0))),
    List.map_nil, settle_bottom]
  rfl

theorem runCompiled_eq_runSpec (fuel : Nat) (body : Stmts) (oracle : List Bool)
    (hw : contScoped body [(0, false)] = true) :
    runCompiled fuel body oracle = some (runSpec fuel body oracle) := by
  obtain ⟨t, ht⟩ := Option.isSome_iff_exists.1 (compileProgram_isSome body hw)
  simp only [runCompiled, ht, Option.map_some, compileProgram_sound fuel body oracle hw t ht]

theorem runSpec_of_compiled {fuel : Nat} {body : Stmts} {oracle : List Bool} {out : List Nat}
    (hw : wellScoped body [(0, false)] = true) (h : runCompiled fuel body oracle = some out) :
    runSpec fuel body oracle = out :=
  Option.some.inj ((runCompiled_eq_runSpec fuel body oracle (wellScoped_contScoped body _ hw)).symm.trans h)

theorem both_of_compiled {fuel : Nat} {body : Stmts} {oracle : List Bool} {out : List Nat}
    (hw : wellScoped body [(0, false)] = true) (h : runCompiled fuel body oracle = some out) :
    runCompiled fuel body oracle = some out ∧ runSpec fuel body oracle = out :=
  ⟨h, runSpec_of_compiled hw h⟩

/-- the bodies of the `defer`s that stand directly in a statement list, in program order -/
def registeredBodies : Stmts → List Stmts
  | .nil => []
  | .cons (.defer b) rest => b :: registeredBodies rest
  | .cons _ rest => registeredBodies rest

def Stmts.append : Stmts → Stmts → Stmts
  | .nil, b => b
  | .cons s r, b => .cons s (Stmts.append r b)

theorem runner_print (fuel c : Nat) (st : St) :
    runner fuel (.cons (.print c) .nil) st = st.emit c := by
  simp [runner, execBlockS_eq, execStmtsS, execS]

theorem runRegs_prints (fuel : Nat) : ∀ (cs : List Nat) (st : St),
    runRegs (cs.map fun c => runner fuel (.cons (.print c) .nil)) st = st.emits cs
  | [], st => rfl
  | c :: cs, st => by
    simp only [List.map_cons, runRegs_cons, St.emits_cons, runner_print]
    exact runRegs_prints fuel cs _

theorem execS_regs (fuel : Nat) (s : Stmt) (regs : List Reg) (st : St) :
    (execS fuel s regs st).2.1 = match s with | .defer b => runner fuel b :: regs | _ => regs := by
  cases s <;> simp only [execS_block, execS_ifS, execS_tryS, execS_loop, execS_loopC, execS, keep] <;> rfl

theorem execStmtsS_regs (fuel : Nat) : (ss : Stmts) → ∀ regs st,
    (execStmtsS fuel ss regs st).1 = .normal →
      (execStmtsS fuel ss regs st).2.1 = (registeredBodies ss).reverse.map (runner fuel) ++ regs
  | .nil => fun regs st _ => by
    rw [execStmtsS]
    rfl
  | .cons s r => by
    intro regs st h
    by_cases hn : (execS fuel s regs st).1 = .normal
    · rw [execStmtsS_cons, if_pos hn] at h ⊢
      rw [execStmtsS_regs fuel r _ _ h, execS_regs]
      cases s <;> simp [registeredBodies]
    · rw [execStmtsS_cons, if_neg hn] at h
      exact absurd h hn

theorem execStmtsS_append (fuel : Nat) : (a b : Stmts) → ∀ regs st,
    (execStmtsS fuel a regs st).1 = .normal →
    execStmtsS fuel (a.append b) regs st =
      execStmtsS fuel b (execStmtsS fuel a regs st).2.1 (execStmtsS fuel a regs st).2.2
  | .nil, b => by
    intro regs st _
    simp [Stmts.append, execStmtsS]
  | .cons s r, b => by
    intro regs st h
    by_cases hn : (execS fuel s regs st).1 = .normal
    · simp only [Stmts.append, execStmtsS_cons, if_pos hn] at h ⊢
      exact execStmtsS_append fuel r b _ _ h
    · rw [execStmtsS_cons, if_neg hn] at h
      exact absurd h hn

/-- statements after a `brk` / `cont` never matter -/
theorem execStmtsS_dead (fuel : Nat) (j : Stmt) (hj : (∃ l, j = .brk l) ∨ (∃ l, j = .cont l)) :
    (pre : Stmts) → ∀ post regs st,
    execStmtsS fuel (pre.append (.cons j post)) regs st =
      execStmtsS fuel (pre.append (.cons j .nil)) regs st
  | .nil => by
    intro post regs st
    rcases hj with ⟨l, rfl⟩ | ⟨l, rfl⟩ <;> simp [Stmts.append, execStmtsS, execS]
  | .cons s r => by
    intro post regs st
    simp only [Stmts.append, execStmtsS_cons, execStmtsS_dead fuel j hj r post]

/-- `loop l { defer { print c }; print p; cont l; dead }` with `k` positive decisions left -/
theorem iter_defer_cont (fuel l c p : Nat) (dead : Stmts) : ∀ k n (st : St), k < n →
    st.oracle = List.replicate k true →
    iter (loopStep l (condS fuel .nil)
        (execBlockS fuel (.cons (.deferP c) (.cons (.print p) (.cons (.cont l) dead))))) n st =
      (.normal, { trace := (List.replicate k [c, p]).flatten ++ st.trace, oracle := [] })
  | 0, n + 1, st => by
    intro _ ho
    obtain ⟨tr, o⟩ := st
    simp only [List.replicate] at ho
    subst ho
    simp [iter, loopStep, condS_nil, St.decide]
  | k + 1, n + 1, st => by
    intro hk ho
    obtain ⟨tr, o⟩ := st
    simp only [List.replicate] at ho
    subst ho
    have ih := iter_defer_cont fuel l c p dead k n
      { trace := c :: p :: tr, oracle := List.replicate k true } (by omega) rfl
    simp only [iter, loopStep, condS_nil, St.decide, execBlockS_eq, execStmtsS, execS, Stmt.deferP, St.emit,
      runRegs_cons, runRegs_nil, loopNext, if_true]
    simp only [Stmt.deferP] at ih
    rw [ih]
    simp [List.replicate_succ']
  | _, 0, _ => by
    intro h
    omega

end CapyV.Defer
