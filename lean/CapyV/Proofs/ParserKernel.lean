import CapyV.Model.ParserKernel
/-!
C23. Whatever the events are, the sink hands the builder the tokens `0, 1, …` in order
(`SinkInv`); it fails exactly when an `add` finds no token left, which the number of `add` events
against the number of non-trivia tokens decides (`runEvents_spec`). The tokens the parser kernel
bumps are those non-trivia tokens (`KInv`). On tokens of lexer shape the comment nodes that the
sink's `skip_trivia` opens are closed again (`skipTriviaLoop_depth`).
-/
namespace CapyV.ParserKernel

/-- the token indices handed to the tree builder, in list order -/
def outToks (o : List Out) : List Nat :=
  o.filterMap fun | .tok i => some i | _ => none

/-- the root-marker shape `Parser::parse` guarantees: first event `StartNode`, last `FinishNode` -/
def RootShape (evs : List Ev) : Prop :=
  (∃ k, evs.head? = some (.start k)) ∧ evs.getLast? = some .finish

/-- "`skip_trivia` has just run": nothing left, or the next token is not trivia -/
def Skipped : List Cls → Prop
  | [] => True
  | c :: _ => c.isTrivia = false

@[simp] theorem outToks_nil : outToks [] = [] := rfl
@[simp] theorem outToks_tok (i o) : outToks (.tok i :: o) = i :: outToks o := rfl
@[simp] theorem outToks_start (k o) : outToks (.start k :: o) = outToks o := rfl
@[simp] theorem outToks_finish (o) : outToks (.finish :: o) = outToks o := rfl
theorem outToks_reverse (o) : outToks o.reverse = (outToks o).reverse := by
  simp [outToks, List.filterMap_reverse]

@[simp] theorem countOther_nil : countOther [] = 0 := rfl
theorem countOther_cons (c r) :
    countOther (c :: r) = (if c.isTrivia then 0 else 1) + countOther r := by
  cases c <;> simp [countOther, Cls.isTrivia] <;> omega
theorem countOther_append (a b) : countOther (a ++ b) = countOther a + countOther b := by
  simp [countOther]

@[simp] theorem countAdd_nil : countAdd [] = 0 := rfl
theorem countAdd_cons (e r) :
    countAdd (e :: r) = (if e = .add then 1 else 0) + countAdd r := by
  cases e <;> simp [countAdd] <;> omega

theorem skipped_countOther_zero {r : List Cls} (h : Skipped r) (h0 : countOther r = 0) : r = [] := by
  cases r with
  | nil => rfl
  | cons c r =>
    simp [Skipped] at h
    simp [countOther_cons, h] at h0

def SinkInv (total : Nat) (s : Sink) : Prop :=
  outToks s.out = (List.range s.idx).reverse ∧ s.idx + s.rest.length = total

/-- `add_token`, with or without `start_node` / `finish_node` calls around it -/
theorem SinkInv.add {total : Nat} {c : Cls} {r : List Cls} {i : Nat} {o o' : List Out}
    (h : SinkInv total ⟨c :: r, i, o⟩) (ho : outToks o' = i :: outToks o) :
    SinkInv total ⟨r, i + 1, o'⟩ := by
  constructor
  · simp [ho, h.1, List.range_succ]
  · have := h.2
    simp only [List.length_cons] at this ⊢
    omega

theorem skipTriviaLoop_inv (ck : Nat) {total : Nat} {r : List Cls} {i : Nat} {o : List Out}
    (h : SinkInv total ⟨r, i, o⟩) : SinkInv total (skipTriviaLoop ck r i o) := by
  fun_induction skipTriviaLoop ck r i o with
  | case5 => exact h
  | _ =>
    -- every iteration adds the token it stands on
    rename_i ih
    exact ih (h.add (by simp))

theorem skipTriviaLoop_count (ck : Nat) (r : List Cls) (i : Nat) (o : List Out) :
    countOther (skipTriviaLoop ck r i o).rest = countOther r := by
  -- every arm of the loop drops one trivia token
  fun_induction skipTriviaLoop ck r i o <;> simp_all [countOther_cons, Cls.isTrivia]

theorem skipTriviaLoop_skipped (ck : Nat) (r : List Cls) (i : Nat) (o : List Out) :
    Skipped (skipTriviaLoop ck r i o).rest := by
  fun_induction skipTriviaLoop ck r i o with
  | case5 r i o h1 h2 h3 =>
    cases r with
    | nil => trivial
    | cons c r =>
      cases c with
      | ws => exact (h1 _ rfl).elim
      | leader => exact (h2 _ rfl).elim
      | contents => exact (h3 _ rfl).elim
      | other => rfl
  | _ => assumption

theorem skipTriviaRest_of_skipped {r : List Cls} (h : Skipped r) (i : Nat) (o : List Out) :
    skipTriviaRest r i o = ⟨r, i, o⟩ := by
  cases r with
  | nil => rfl
  | cons c r =>
    simp only [Skipped] at h
    simp [skipTriviaRest, h]

theorem skipTrivia_eq_loop (ck : Nat) (s : Sink) :
    skipTrivia ck s = skipTriviaLoop ck s.rest s.idx s.out := by
  unfold skipTrivia
  exact skipTriviaRest_of_skipped (skipTriviaLoop_skipped ck s.rest s.idx s.out) _ _

theorem skipTrivia_inv (ck total : Nat) (s : Sink) (h : SinkInv total s) :
    SinkInv total (skipTrivia ck s) :=
  skipTrivia_eq_loop ck s ▸ skipTriviaLoop_inv ck h

theorem skipTrivia_spec (ck : Nat) (s : Sink) :
    countOther (skipTrivia ck s).rest = countOther s.rest ∧ Skipped (skipTrivia ck s).rest :=
  skipTrivia_eq_loop ck s ▸ ⟨skipTriviaLoop_count .., skipTriviaLoop_skipped ..⟩

theorem processEvent_add_nil {s : Sink} (h : s.rest = []) : processEvent s .add = none := by
  simp [processEvent, h]

theorem processEvent_add_cons {s : Sink} {c : Cls} {r : List Cls} (h : s.rest = c :: r) :
    processEvent s .add = some ⟨r, s.idx + 1, .tok s.idx :: s.out⟩ := by
  simp [processEvent, h]

theorem processEvent_none {s : Sink} {e : Ev} (h : processEvent s e = none) :
    e = .add ∧ s.rest = [] := by
  cases e with
  | add =>
    cases hr : s.rest with
    | nil => exact ⟨rfl, rfl⟩
    | cons c r =>
      rw [processEvent_add_cons hr] at h
      cases h
  | _ => cases h

theorem processEvent_count {s s' : Sink} {e : Ev} (h : processEvent s e = some s')
    (hsk : e = .add → Skipped s.rest) :
    countOther s'.rest + (if e = .add then 1 else 0) = countOther s.rest := by
  cases e with
  | add =>
    cases hr : s.rest with
    | nil =>
      rw [processEvent_add_nil hr] at h
      cases h
    | cons c r =>
      rw [processEvent_add_cons hr] at h
      cases h
      have : c.isTrivia = false := by
        have := hsk rfl
        rwa [hr] at this
      simp [countOther_cons, this, Nat.add_comm]
  | _ =>
    cases h
    simp

theorem processEvent_inv {total : Nat} {s s' : Sink} {e : Ev} (h : SinkInv total s)
    (he : processEvent s e = some s') : SinkInv total s' := by
  obtain ⟨r, i, o⟩ := s
  cases e with
  | add =>
    cases r with
    | nil =>
      rw [processEvent_add_nil rfl] at he
      cases he
    | cons c r =>
      rw [processEvent_add_cons rfl] at he
      cases he
      exact h.add rfl
  | _ =>
    cases he
    exact ⟨by simpa using h.1, h.2⟩

theorem runEvents_inv {ck total : Nat} {evs : List Ev} {s s' : Sink} (h : SinkInv total s)
    (hr : runEvents ck evs s = some s') : SinkInv total s' := by
  fun_induction runEvents ck evs s with
  | case1 s =>
    simp at hr
    subst hr
    exact h
  | case2 last s => exact processEvent_inv (skipTrivia_inv ck total s h) hr
  | case3 e next more s hn => simp at hr
  | case4 e next more s s1 hs1 s2 ih =>
    have h1 := processEvent_inv h hs1
    apply ih _ hr
    simp only [s2]
    split
    · exact h1
    · exact skipTrivia_inv ck total _ h1

/-- `hsk`: `Sink::finish` runs `skip_trivia` behind every event that is followed by a `StartNode`
or `AddToken`, so every `add` but a leading one finds the trivia skipped; that is what lets an
`add` take exactly one non-trivia token. -/
theorem runEvents_spec (ck : Nat) (evs : List Ev) (s : Sink)
    (hlast : evs.getLast? = some .finish) (hsk : evs.head? = some .add → Skipped s.rest) :
    if countAdd evs ≤ countOther s.rest then
      ∃ s', runEvents ck evs s = some s' ∧ countOther s'.rest + countAdd evs = countOther s.rest ∧
        Skipped s'.rest
    else runEvents ck evs s = none := by
  fun_induction runEvents ck evs s with
  | case1 s => simp at hlast
  | case2 last s =>
    simp at hlast
    subst hlast
    obtain ⟨c, k⟩ := skipTrivia_spec ck s
    simp [countAdd_cons, processEvent, c, k]
  | case3 e next more s hn =>
    obtain ⟨rfl, hr⟩ := processEvent_none hn
    simp [countAdd_cons, hr]
  | case4 e next more s s1 hs1 s2 ih =>
    have hlast' : (next :: more).getLast? = some Ev.finish := by
      simpa [List.getLast?_cons_cons] using hlast
    have hsk' : (next :: more).head? = some Ev.add → Skipped s2.rest := by
      intro hn
      simp at hn
      subst hn
      exact (skipTrivia_spec ck s1).2
    have hc2 : countOther s2.rest = countOther s1.rest := by
      simp only [s2]
      split
      · rfl
      · exact (skipTrivia_spec ck s1).1
    have hc1 := processEvent_count hs1 fun he => hsk (by simp [he])
    have := ih hlast' hsk'
    rw [hc2] at this
    rw [countAdd_cons e]
    split at this
    · rw [if_pos (by omega)]
      obtain ⟨s', a, b, c⟩ := this
      exact ⟨s', a, by omega, c⟩
    · rw [if_neg (by omega)]
      exact this

theorem sinkFinish_of_shape (ck : Nat) (toks : List Cls) {evs : List Ev} (h : RootShape evs) :
    sinkFinish ck toks evs =
      (runEvents ck evs ⟨toks, 0, []⟩).map fun s => (s.out.reverse, s.idx) := by
  obtain ⟨⟨k, h1⟩, h2⟩ := h
  simp [sinkFinish, h1, h2]

theorem sinkFinish_some {ck : Nat} {toks : List Cls} {evs : List Ev} {out : List Out} {n : Nat}
    (h : sinkFinish ck toks evs = some (out, n)) :
    ∃ s, runEvents ck evs ⟨toks, 0, []⟩ = some s ∧ out = s.out.reverse ∧ n = s.idx := by
  unfold sinkFinish at h
  split at h
  · simp only [Option.map_eq_some_iff, Prod.mk.injEq] at h
    obtain ⟨s, a, b, c⟩ := h
    exact ⟨s, a, b.symm, c.symm⟩
  · simp at h

theorem sinkFinish_spec (ck : Nat) (toks : List Cls) (evs : List Ev) (h : RootShape evs) :
    if countAdd evs ≤ countOther toks then
      ∃ out n, sinkFinish ck toks evs = some (out, n) ∧ n ≤ toks.length ∧
        (n = toks.length ↔ countAdd evs = countOther toks)
    else sinkFinish ck toks evs = none := by
  rw [sinkFinish_of_shape ck toks h]
  obtain ⟨⟨k, h1⟩, h2⟩ := h
  have := runEvents_spec ck evs ⟨toks, 0, []⟩ h2 (by simp [h1])
  simp only at this
  split
  · rename_i hle
    rw [if_pos hle] at this
    obtain ⟨s', a, b, c⟩ := this
    obtain ⟨-, i2⟩ := runEvents_inv (total := toks.length) ⟨by simp, by simp⟩ a
    refine ⟨s'.out.reverse, s'.idx, by simp [a], by omega, ?_⟩
    constructor
    · intro hn
      have : s'.rest = [] := List.eq_nil_of_length_eq_zero (by omega)
      rw [this] at b
      simpa using b
    · intro hc
      have := skipped_countOther_zero c (by omega)
      rw [this] at i2
      simpa using i2
  · rename_i hle
    rw [if_neg hle] at this
    simp [this]

theorem isTrivia_false_iff {c : Cls} : c.isTrivia = false ↔ c = .other := by
  cases c <;> simp [Cls.isTrivia]

theorem pSkipTrivia_spec (r : List Cls) (i : Nat) :
    ∃ tr, r = tr ++ (pSkipTrivia r i).1 ∧ (pSkipTrivia r i).2 = i + tr.length ∧
      countOther tr = 0 ∧ Skipped (pSkipTrivia r i).1 := by
  fun_induction pSkipTrivia r i with
  | case1 c r i hc ih =>
    obtain ⟨tr, a, b, c', d⟩ := ih
    refine ⟨c :: tr, by simpa using a, ?_, ?_, d⟩
    · simp only [List.length_cons]
      omega
    · simp [countOther_cons, hc, c']
  | case2 c r i hc => exact ⟨[], by simp, by simp, by simp, by simpa [Skipped] using hc⟩
  | case3 i => exact ⟨[], by simp, by simp, by simp, by simp [Skipped]⟩

structure KInv (toks : List Cls) (s : PState) : Prop where
  split : ∃ pre, toks = pre ++ s.rest ∧ pre.length = s.idx ∧ countOther pre = s.adds
  bumps_lt : ∀ b ∈ s.bumps, b < s.idx
  bumps_other : ∀ b ∈ s.bumps, toks[b]? = some .other
  bumps_sorted : s.bumps.Pairwise (· > ·)
  bumps_len : s.bumps.length = s.adds

theorem KInv.init (toks : List Cls) : KInv toks ⟨toks, 0, 0, []⟩ :=
  ⟨⟨[], by simp⟩, by simp, by simp, by simp, rfl⟩

theorem KInv.skip {toks : List Cls} {s : PState} (h : KInv toks s) :
    KInv toks { s with rest := (pSkipTrivia s.rest s.idx).1, idx := (pSkipTrivia s.rest s.idx).2 } := by
  obtain ⟨⟨pre, h1, h2, h3⟩, h4, h5, h6, h7⟩ := h
  obtain ⟨tr, t1, t2, t3, -⟩ := pSkipTrivia_spec s.rest s.idx
  refine ⟨⟨pre ++ tr, ?_, ?_, ?_⟩, fun b hb => ?_, h5, h6, h7⟩
  · rw [List.append_assoc, ← t1, h1]
  · simp only [List.length_append]
    omega
  · simp only [countOther_append]
    omega
  · have := h4 b hb
    simp only
    omega

theorem KInv.take {toks r : List Cls} {i a : Nat} {bs : List Nat}
    (h : KInv toks ⟨.other :: r, i, a, bs⟩) : KInv toks ⟨r, i + 1, a + 1, i :: bs⟩ := by
  obtain ⟨⟨pre, h1, h2, h3⟩, h4, h5, h6, h7⟩ := h
  simp only at h1 h2 h3 h4 h7
  refine ⟨⟨pre ++ [.other], ?_, ?_, ?_⟩, ?_, ?_, ?_, by simp [h7]⟩
  · simp [h1]
  · simp [h2]
  · simp [countOther_append, countOther_cons, Cls.isTrivia, h3]
  · intro b hb
    rcases List.mem_cons.1 hb with rfl | hb
    · exact Nat.lt_succ_self _
    · exact Nat.lt_succ_of_lt (h4 b hb)
  · intro b hb
    rcases List.mem_cons.1 hb with rfl | hb
    · rw [h1, ← h2]
      simp
    · exact h5 b hb
  · exact List.pairwise_cons.2 ⟨fun b hb => h4 b hb, h6⟩

theorem kstep_inv {toks : List Cls} {s s' : PState} {op : KOp} (h : KInv toks s)
    (hs : kstep s op = some s') : KInv toks s' := by
  cases op with
  | marker =>
    cases hs
    exact h
  | look =>
    cases hs
    exact h.skip
  | bump =>
    -- `bump` is `skip_trivia`, which stops at a non-trivia token, then that token
    have h' := h.skip
    obtain ⟨-, -, -, -, hsk⟩ := pSkipTrivia_spec s.rest s.idx
    simp only [kstep] at hs
    split at hs
    · cases hs
    · rename_i c r i heq
      cases hs
      rw [heq] at h' hsk
      obtain rfl := isTrivia_false_iff.1 hsk
      exact h'.take

theorem krun_inv {toks : List Cls} (ops : List KOp) {s s' : PState} (h : KInv toks s)
    (hr : krun ops s = some s') : KInv toks s' := by
  fun_induction krun ops s with
  | case1 s =>
    simp at hr
    subst hr
    exact h
  | case2 op ops s hn => simp at hr
  | case3 op ops s s1 hs1 ih => exact ih (kstep_inv h hs1) hr

theorem KInv.atEof_adds {toks : List Cls} {s : PState} (h : KInv toks s) (he : s.atEof = true) :
    s.adds = countOther toks := by
  obtain ⟨⟨pre, h1, h2, h3⟩, -, -, -, -⟩ := h
  obtain ⟨tr, t1, t2, t3, t4⟩ := pSkipTrivia_spec s.rest s.idx
  simp only [PState.atEof, List.isEmpty_iff] at he
  rw [he, List.append_nil] at t1
  rw [h1, countOther_append, t1, t3]
  omega

theorem guardedLoop_succ (body : Nat → Nat) (fuel idx : Nat) :
    guardedLoop body (fuel + 1) idx =
      if body idx = idx then (1, idx)
      else ((guardedLoop body fuel (body idx)).1 + 1, (guardedLoop body fuel (body idx)).2) := by
  simp only [guardedLoop]
  split <;> simp [*]

/-- nesting depth after a sequence of builder calls (`none`: a `finish` with nothing open) -/
def depthAfter : Nat → List Out → Option Nat
  | d, [] => some d
  | d, .start _ :: o => depthAfter (d + 1) o
  | d, .tok _ :: o => depthAfter d o
  | 0, .finish :: _ => none
  | d + 1, .finish :: o => depthAfter d o

/-- every `start` is closed by a later `finish` and no `finish` comes early -/
def Balanced (o : List Out) : Prop := depthAfter 0 o = some 0

/-- lexer shape: every `contents` token is immediately preceded by a `leader` -/
def lexShapeFrom (prevLeader : Bool) : List Cls → Bool
  | [] => true
  | .contents :: r => prevLeader && lexShapeFrom false r
  | .leader :: r => lexShapeFrom true r
  | _ :: r => lexShapeFrom false r

def LexShape (toks : List Cls) : Prop := lexShapeFrom false toks = true

instance (toks : List Cls) : Decidable (LexShape toks) := by unfold LexShape; infer_instance

theorem depthAfter_append (d : Nat) (a b : List Out) :
    depthAfter d (a ++ b) = (depthAfter d a).bind fun d' => depthAfter d' b := by
  fun_induction depthAfter d a <;> simp_all [depthAfter]

/-- builder calls `xs` (newest first) on top of `o` -/
theorem depthAfter_push {d0 k : Nat} {o : List Out} (h : depthAfter d0 o.reverse = some k)
    (xs : List Out) : depthAfter d0 (xs ++ o).reverse = depthAfter k xs.reverse := by
  rw [List.reverse_append, depthAfter_append, h]
  rfl

theorem head?_ne_contents {r : List Cls} (h : ∀ tl, r = .contents :: tl → False) :
    r.head? ≠ some .contents := by
  cases r with
  | nil => simp
  | cons c tl =>
    intro h'
    simp only [List.head?_cons, Option.some.injEq] at h'
    exact h tl (h' ▸ rfl)

theorem lexShapeFrom_false_head {r : List Cls} (h : lexShapeFrom false r = true) :
    r.head? ≠ some .contents :=
  head?_ne_contents fun tl hr => by simp [hr, lexShapeFrom] at h

/-- `p`: the token before `r` was a comment leader (the state of `lexShapeFrom`). The `Comment`
node opened at a leader is still open exactly when the next token is its contents, hence the
`+ 1` on the depth. -/
theorem skipTriviaLoop_depth (ck : Nat) (r : List Cls) (i : Nat) (o : List Out) (p : Bool)
    (d0 d : Nat) (hs : lexShapeFrom p r = true)
    (h : depthAfter d0 o.reverse = some (d + (if r.head? = some .contents then 1 else 0))) :
    depthAfter d0 (skipTriviaLoop ck r i o).out.reverse = some d := by
  fun_induction skipTriviaLoop ck r i o generalizing p with
  | case1 r i o ih =>
    have hr : lexShapeFrom false r = true := hs
    have hpush := depthAfter_push h [.tok i]
    exact ih false hr (by simpa [depthAfter, lexShapeFrom_false_head hr] using hpush)
  | case2 i o r' ih =>
    have hpush := depthAfter_push h [.tok i, .start ck]
    exact ih true hs (by simpa [depthAfter] using hpush)
  | case3 r i o hr ih =>
    have hpush := depthAfter_push h [.finish, .tok i, .start ck]
    exact ih true hs (by simpa [depthAfter, head?_ne_contents hr] using hpush)
  | case4 r i o ih =>
    have hr : lexShapeFrom false r = true := (Bool.and_eq_true _ _ ▸ hs).2
    have hpush := depthAfter_push h [.finish, .tok i]
    exact ih false hr (by simpa [depthAfter, lexShapeFrom_false_head hr] using hpush)
  | case5 r i o h1 h2 h3 =>
    simpa [head?_ne_contents h3] using h

end CapyV.ParserKernel
