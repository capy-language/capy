import CapyV.Model.Imports

/-!
Path-level facts about the import resolution model.  `clean` of an absolute path is the root
followed by the names its walk ends at (`clean_abs_eq_walk`); that it has no `..`, is
idempotent, and makes the prefix test `isSubDirOf` exact are corollaries.
-/
namespace CapyV.Imports

/-- an absolute path as produced by `Path::components`: `RootDir` first and only first -/
def IsAbs (p : Path) : Prop := ∃ rest, p = Comp.root :: rest ∧ Comp.root ∉ rest

/-- a cleaned absolute path: root followed by normal components only -/
def IsCleanAbs (p : Path) : Prop :=
  ∃ names : List (List Char), p = Comp.root :: names.map Comp.normal

theorem parent_not_mem_map_normal (names : List (List Char)) :
    Comp.parent ∉ names.map Comp.normal := by
  simp

theorem cur_not_mem_map_normal (names : List (List Char)) :
    Comp.cur ∉ names.map Comp.normal := by
  simp

theorem IsCleanAbs.isAbs {p : Path} (h : IsCleanAbs p) : IsAbs p := by
  obtain ⟨names, rfl⟩ := h
  exact ⟨_, rfl, by simp⟩

/-- the loop invariant on an absolute path; the stack has its top first, so `rn` lists the
names in reverse -/
theorem foldl_cleanStep_abs (rest : List Comp) (h : Comp.root ∉ rest) (rn : List (List Char)) :
    rest.foldl cleanStep (rn.map Comp.normal ++ [Comp.root])
      = ((rest.foldl walkStep rn.reverse).reverse.map Comp.normal) ++ [Comp.root] := by
  induction rest generalizing rn with
  | nil => simp
  | cons c cs ih =>
    have hc : Comp.root ∉ cs := fun hm => h (List.mem_cons_of_mem _ hm)
    simp only [List.foldl_cons]
    cases c with
    | root => exact absurd (List.mem_cons_self) h
    | cur => exact ih hc rn
    | parent =>
      cases rn with
      | nil => simpa [cleanStep, walkStep] using ih hc []
      | cons n rn' => simpa [cleanStep, walkStep] using ih hc rn'
    | normal s => simpa [cleanStep, walkStep] using ih hc (s :: rn)

theorem walk_root_cons (rest : List Comp) : walk (Comp.root :: rest) = rest.foldl walkStep [] := by
  simp [walk, walkStep]

theorem cleanStack_abs (rest : List Comp) (h : Comp.root ∉ rest) :
    cleanStack (Comp.root :: rest)
      = ((walk (Comp.root :: rest)).reverse.map Comp.normal) ++ [Comp.root] := by
  have := foldl_cleanStep_abs rest h []
  simpa [cleanStack, cleanStep, walk_root_cons] using this

theorem foldl_walkStep_normals (acc names : List (List Char)) :
    (names.map Comp.normal).foldl walkStep acc = acc ++ names := by
  induction names generalizing acc with
  | nil => simp
  | cons n ns ih => simp [walkStep, ih]

theorem walk_cleanAbs (names : List (List Char)) :
    walk (Comp.root :: names.map Comp.normal) = names := by
  rw [walk_root_cons, foldl_walkStep_normals]; simp

theorem clean_abs_eq_walk (p : Path) (h : IsAbs p) :
    clean p = Comp.root :: (walk p).map Comp.normal := by
  obtain ⟨rest, rfl, hr⟩ := h
  simp [clean, cleanStack_abs rest hr]

theorem clean_has_no_dotdot (p : Path) (h : IsAbs p) :
    Comp.parent ∉ clean p ∧ Comp.cur ∉ clean p := by
  rw [clean_abs_eq_walk p h]
  simp

theorem walk_clean (p : Path) (h : IsAbs p) : walk (clean p) = walk p := by
  rw [clean_abs_eq_walk p h, walk_cleanAbs]

theorem clean_of_isCleanAbs (p : Path) (h : IsCleanAbs p) : clean p = p := by
  have h' := clean_abs_eq_walk p h.isAbs
  obtain ⟨names, rfl⟩ := h
  rw [h', walk_cleanAbs]

theorem clean_idem_abs (p : Path) (h : IsAbs p) : clean (clean p) = clean p :=
  clean_of_isCleanAbs _ ⟨walk p, clean_abs_eq_walk p h⟩

/-- the loop invariant on a relative path: the stack, top first, is names above `..`s -/
theorem foldl_cleanStep_rel (rest : List Comp) (h : Comp.root ∉ rest)
    (rn : List (List Char)) (k : Nat) :
    ∃ (rn' : List (List Char)) (k' : Nat),
      rest.foldl cleanStep (rn.map Comp.normal ++ List.replicate k Comp.parent)
        = rn'.map Comp.normal ++ List.replicate k' Comp.parent := by
  induction rest generalizing rn k with
  | nil => exact ⟨rn, k, rfl⟩
  | cons c cs ih =>
    have hc : Comp.root ∉ cs := fun hm => h (List.mem_cons_of_mem _ hm)
    simp only [List.foldl_cons]
    cases c with
    | root => exact absurd (List.mem_cons_self) h
    | cur => exact ih hc rn k
    | parent =>
      cases rn with
      | nil =>
        have : cleanStep (List.replicate k Comp.parent) .parent
            = List.replicate (k + 1) Comp.parent := by cases k <;> rfl
        exact this ▸ ih hc [] (k + 1)
      | cons n rn' => exact ih hc rn' k
    | normal s => exact ih hc (s :: rn) k

theorem clean_rel_shape (p : Path) (h : Comp.root ∉ p) :
    clean p = [Comp.cur] ∨ ∃ (k : Nat) (names : List (List Char)),
      clean p = List.replicate k Comp.parent ++ names.map Comp.normal := by
  obtain ⟨rn, k, hs⟩ := foldl_cleanStep_rel p h [] 0
  have hs' : cleanStack p = rn.map Comp.normal ++ List.replicate k Comp.parent := by
    simpa [cleanStack] using hs
  by_cases he : (cleanStack p).reverse = []
  · left; simp [clean, he]
  · right
    refine ⟨k, rn.reverse, ?_⟩
    simp only [clean, he, if_false]
    rw [hs']
    simp

theorem isSubDirOf_iff_prefix {sub base : Path} : isSubDirOf sub base = true ↔ base <+: sub := by
  induction base generalizing sub with
  | nil => simp [isSubDirOf]
  | cons b bs ih =>
    cases sub with
    | nil => simp [isSubDirOf]
    | cons s ss =>
      simp only [isSubDirOf, Bool.and_eq_true, beq_iff_eq, List.cons_prefix_cons, ih]
      constructor
      · rintro ⟨rfl, h⟩; exact ⟨rfl, h⟩
      · rintro ⟨rfl, h⟩; exact ⟨rfl, h⟩

theorem subdir_after_clean_iff (p base : Path) (hp : IsAbs p) (hb : IsCleanAbs base) :
    isSubDirOf (clean p) base = true ↔ walk base <+: walk p := by
  obtain ⟨names, rfl⟩ := hb
  rw [isSubDirOf_iff_prefix, clean_abs_eq_walk p hp, walk_cleanAbs, List.cons_prefix_cons,
    List.prefix_map_iff_of_injective fun _ _ h => Comp.normal.inj h]
  simp

theorem subdir_after_clean_is_real (p base : Path) (hp : IsAbs p) (hb : IsCleanAbs base)
    (h : isSubDirOf (clean p) base = true) :
    ∃ rel : List (List Char), walk p = walk base ++ rel := by
  obtain ⟨rel, hrel⟩ := (subdir_after_clean_iff p base hp hb).1 h
  exact ⟨rel, hrel.symm⟩

theorem subdir_without_clean_unsound :
    ∃ p base : Path, IsAbs p ∧ IsCleanAbs base ∧ isSubDirOf p base = true ∧
      ¬ ∃ rel, walk p = walk base ++ rel := by
  refine ⟨[.root, .normal ['w'], .parent, .normal ['e', 't', 'c']], [.root, .normal ['w']],
    ⟨_, rfl, by simp⟩, ⟨[['w']], rfl⟩, by decide, ?_⟩
  rintro ⟨rel, h⟩
  simp [walk, walkStep] at h

theorem join_rel {a b : Path} (hb : Comp.root ∉ b) : join a b = a ++ b := by
  cases b with
  | nil => rfl
  | cons c cs =>
    cases c with
    | root => exact absurd (List.mem_cons_self) hb
    | cur => rfl
    | parent => rfl
    | normal s => rfl

theorem join_abs_left (a b : Path) (ha : IsAbs a) (hb : Comp.root ∉ b) : IsAbs (join a b) := by
  obtain ⟨rest, rfl, hr⟩ := ha
  rw [join_rel hb]
  exact ⟨rest ++ b, rfl, by simp [hr, hb]⟩

theorem join_abs_right {a b : Path} (hb : IsAbs b) : join a b = b := by
  obtain ⟨rest, rfl, _⟩ := hb
  rfl

theorem compOfPiece_ne_root (p : List Char) : compOfPiece p ≠ some Comp.root := by
  unfold compOfPiece
  split
  · simp
  · split
    · simp
    · split <;> simp

theorem root_not_mem_filterMap_compOfPiece (l : List (List Char)) :
    Comp.root ∉ l.filterMap compOfPiece := by
  intro h
  obtain ⟨p, _, hp⟩ := List.mem_filterMap.1 h
  exact compOfPiece_ne_root p hp

theorem parse_abs (s : List Char) (h : hasRoot s = true) : IsAbs (parse s) :=
  ⟨(splitSlash s).filterMap compOfPiece, by simp [parse, h], root_not_mem_filterMap_compOfPiece _⟩

theorem parse_rel (s : List Char) (h : hasRoot s = false) : Comp.root ∉ parse s := by
  have := root_not_mem_filterMap_compOfPiece (splitSlash s)
  rw [parse, h, if_neg Bool.false_ne_true]
  split <;> simpa

theorem parse_root_only_head (s : List Char) : Comp.root ∉ (parse s).tail := by
  cases h : hasRoot s
  · exact fun hm => parse_rel s h (List.mem_of_mem_tail hm)
  · obtain ⟨rest, hr, hn⟩ := parse_abs s h
    rw [hr]; exact hn

theorem endsCapy_iff_suffix (s : List Char) : endsCapy s = true ↔ dotCapy <:+ s := by
  unfold endsCapy
  rw [List.isPrefixOf_iff_prefix, List.reverse_prefix]

/-- appending `.capy` (no separator in it) only extends the last piece -/
theorem splitSlash_append_dotCapy (pre : List Char) :
    ∃ init l, splitSlash pre = init ++ [l] ∧ splitSlash (pre ++ dotCapy) = init ++ [l ++ dotCapy] := by
  induction pre with
  | nil => exact ⟨[], [], rfl, by decide⟩
  | cons c cs ih =>
    obtain ⟨init, l, h1, h2⟩ := ih
    by_cases hc : c = '/'
    · refine ⟨[] :: init, l, ?_, ?_⟩
      · simp [splitSlash, hc, h1]
      · simp [splitSlash, hc, h2]
    · cases init with
      | nil =>
        refine ⟨[], c :: l, ?_, ?_⟩
        · simp [splitSlash, hc, h1]
        · simp [splitSlash, hc, h2]
      | cons q qs =>
        refine ⟨(c :: q) :: qs, l, ?_, ?_⟩
        · simp [splitSlash, hc, h1]
        · simp [splitSlash, hc, h2]

theorem compOfPiece_append_dotCapy (l : List Char) :
    compOfPiece (l ++ dotCapy) = some (Comp.normal (l ++ dotCapy)) := by
  have hlen : (l ++ dotCapy).length ≥ 5 := by simp [dotCapy]
  unfold compOfPiece
  have h1 : l ++ dotCapy ≠ [] := by
    intro h
    rw [h] at hlen
    simp at hlen
  have h2 : l ++ dotCapy ≠ ['.'] := by
    intro h
    rw [h] at hlen
    simp at hlen
  have h3 : l ++ dotCapy ≠ ['.', '.'] := by
    intro h
    rw [h] at hlen
    simp at hlen
  simp [h1, h2, h3]

theorem endsCapy_last_comp (s : List Char) (h : endsCapy s = true) :
    ∃ n, (parse s).getLast? = some (Comp.normal n) ∧ endsCapy n = true := by
  obtain ⟨pre, rfl⟩ := (endsCapy_iff_suffix s).1 h
  obtain ⟨init, l, _, h2⟩ := splitSlash_append_dotCapy pre
  refine ⟨l ++ dotCapy, ?_, (endsCapy_iff_suffix _).2 ⟨l, rfl⟩⟩
  unfold parse
  rw [h2, List.filterMap_append]
  simp [compOfPiece_append_dotCapy]

end CapyV.Imports
