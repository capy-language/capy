import CapyV.Model.Switch
/-!
C11, the check. The flags of the second loop are kept in closed form (`flagged`: a variant is
flagged when an arm selecting it has been seen), so that the three loops combine into `check_spec`,
the check against the declarative rule `Accepts`; `resolveArmsPinned_eq` is what
`C11.pinned_eq_fixed` rests on. Then the discriminant assignment:
`used_discriminants` never holds a value twice and the second pass hands out only values that are
manual or fresh, whence `discriminants_nodup`.
-/
namespace CapyV.Switch
open CapyV

theorem variantTys_eq_some {t : Ty} {vts : List Ty} (h : variantTys t = some vts) :
    (∃ sub, t = .optional sub ∧ vts = [sub, .nil]) ∨
    (∃ e p, t = .errorUnion e p ∧ vts = [e, p]) ∨
    (∃ uid vs, t = .enum uid vs ∧ vts = vs.toList) := by
  unfold variantTys at h
  split at h
  · cases h
    exact .inl ⟨_, rfl, rfl⟩
  · cases h
    exact .inr (.inl ⟨_, _, rfl, rfl⟩)
  · cases h
    exact .inr (.inr ⟨_, _, rfl, rfl⟩)
  · cases h

theorem isSumTy_of_variantTys {scrut : Ty} {vts : List Ty}
    (h : variantTys scrut.absoluteTy = some vts) : scrut.isSumTy = true := by
  unfold Ty.isSumTy
  rcases variantTys_eq_some h with ⟨_, h, _⟩ | ⟨_, _, h, _⟩ | ⟨_, _, h, _⟩ <;> rw [h]

/-- the variant an arm selects in the second loop: the first one `matches_arm` accepts -/
def firstMatching (a : Arm) (ks : List Ty) : Option Ty :=
  ks.find? (fun v => matchesArm v a == some true)

theorem firstMatching_qualified (ty : Ty) (vts : List Ty) :
    firstMatching (.qualified ty) vts = if ty ∈ vts then some ty else none := by
  induction vts with
  | nil => rfl
  | cons v rest ih =>
    simp only [firstMatching, matchesArm, List.find?_cons] at ih ⊢
    by_cases h : v = ty
    · simp [h]
    · simpa [h, Ne.symm h] using ih

theorem firstMatching_shorthand (n : Nat) (vts : List Ty) :
    firstMatching (.shorthand n) vts = vts.find? (fun v => variantName? v == some n) := by
  unfold firstMatching
  congr 1
  funext v
  simp only [matchesArm]
  cases variantName? v with
  | none => rfl
  | some m => by_cases h : m = n <;> simp [h]

/-- the state of the second loop: variant `v` is flagged when an arm selecting it is in `S` -/
def flagged (vts : List Ty) (S : List (Option Ty)) : List (Ty × Bool) :=
  vts.map fun v => (v, decide (some v ∈ S))

theorem flagged_congr {vts : List Ty} {S T : List (Option Ty)}
    (h : ∀ v ∈ vts, (some v ∈ S ↔ some v ∈ T)) : flagged vts S = flagged vts T :=
  List.map_congr_left fun v hv => by rw [decide_eq_decide.2 (h v hv)]

@[simp] theorem flagged_cons (v : Ty) (rest : List Ty) (S : List (Option Ty)) :
    flagged (v :: rest) S = (v, decide (some v ∈ S)) :: flagged rest S := rfl

/-- `Nodup`: the loop flags a position, `flagged` speaks of a variant. -/
theorem markArm_flagged (a : Arm) (S : List (Option Ty)) {vts : List Ty} (hnd : vts.Nodup)
    (hm : ∀ v ∈ vts, (matchesArm v a).isSome) :
    markArm a (flagged vts S) = (firstMatching a vts).map fun w =>
      (flagged vts (some w :: S), if some w ∈ S then some w else none) := by
  induction vts with
  | nil => rfl
  | cons v rest ih =>
    have ⟨hv, hnd'⟩ := List.nodup_cons.1 hnd
    have ih' := ih hnd' fun u hu => hm u (List.mem_cons_of_mem _ hu)
    match hmv : matchesArm v a, hm v List.mem_cons_self with
    | some true, _ =>
      have : flagged rest (some v :: S) = flagged rest S :=
        flagged_congr fun u hu => by simp [show u ≠ v from fun e => hv (e ▸ hu)]
      simp [markArm, hmv, firstMatching, this]
    | some false, _ =>
      simp only [flagged_cons, markArm, hmv, ih', firstMatching, List.find?_cons]
      cases hf : rest.find? (fun v => matchesArm v a == some true) with
      | none => simp
      | some w =>
        have : v ≠ w := fun e => hv (e ▸ List.mem_of_find?_eq_some hf)
        simp [this]

theorem uncovered_nil_iff (st : List (Ty × Bool)) :
    uncovered st = [] ↔ ∀ p ∈ st, p.2 = true := by
  induction st with
  | nil => simp [uncovered]
  | cons p rest ih =>
    obtain ⟨k, b⟩ := p
    cases b <;> simp [uncovered, ih]

theorem uncovered_flagged (vts : List Ty) (S : List (Option Ty)) :
    uncovered (flagged vts S) = [] ↔ ∀ v ∈ vts, some v ∈ S := by
  simp [uncovered_nil_iff, flagged]

/-- `S` holds the selections so far, newest first: hence `reverse`. `S.Nodup` stands on the left so
that the step is `nodup_cons` after moving the new selection to the front. -/
theorem coverArms_flagged {vts : List Ty} (hnd : vts.Nodup) (arms : List Arm)
    (hm : ∀ a ∈ arms, ∀ v ∈ vts, (matchesArm v a).isSome)
    (hres : ∀ a ∈ arms, (firstMatching a vts).isSome) (S : List (Option Ty)) :
    ∃ ds, coverArms arms (flagged vts S) =
        some (flagged vts ((arms.map (firstMatching · vts)).reverse ++ S), ds) ∧
      (ds = [] ∧ S.Nodup ↔ (arms.map (firstMatching · vts) ++ S).Nodup) := by
  induction arms generalizing S with
  | nil => exact ⟨[], rfl, by simp⟩
  | cons a rest ih =>
    obtain ⟨w, hw⟩ := Option.isSome_iff_exists.1 (hres a List.mem_cons_self)
    obtain ⟨ds, hc, hds⟩ := ih (fun b hb => hm b (List.mem_cons_of_mem _ hb))
      (fun b hb => hres b (List.mem_cons_of_mem _ hb)) (some w :: S)
    have hmark := markArm_flagged a S hnd (hm a List.mem_cons_self)
    rw [hw] at hmark
    by_cases hin : some w ∈ S
    · refine ⟨.alreadyCovers w :: ds, ?_, ?_⟩
      · simp [coverArms, hmark, hc, hin, hw]
      · simp [hw, hin]
    · refine ⟨ds, by simp [coverArms, hmark, hc, hin, hw], ?_⟩
      rw [List.map_cons, hw, List.cons_append, ← List.perm_middle.nodup_iff, ← hds, List.nodup_cons]
      simp [hin]

theorem anyNamed_eq (n : Nat) (vts : List Ty) (hv : ∀ v ∈ vts, (variantName? v).isSome) :
    anyNamed n vts = some (vts.find? (fun v => variantName? v == some n)).isSome := by
  fun_induction anyNamed n vts with
  | case1 => rfl
  | case2 v vs h =>
    -- the `unreachable!()`: `hv` says `v` has a name
    have := hv v List.mem_cons_self
    rw [h] at this
    cases this
  | case3 v vs h =>
    -- `v` is called `n`: `any` stops with `true`, `find?` with `v`
    simp [h]
  | case4 v vs m h hne ih =>
    -- another name: both go on in the rest
    rw [ih fun w hw => hv w (List.mem_cons_of_mem _ hw)]
    simp [h, hne]

theorem ite_cons_eq_nil {α : Type} {b : Prop} [Decidable b] (d : α) (ds : List α) :
    (if b then ds else d :: ds) = [] ↔ b ∧ ds = [] := by
  split <;> simp [*]

theorem resolveArms_spec (scrut : Ty) (vts : List Ty)
    (hv : isEnum scrut = true → ∀ v ∈ vts, (variantName? v).isSome) (arms : List Arm) :
    ∃ ds, resolveArms scrut vts arms = some ds ∧
      (ds = [] ↔ ∀ a ∈ arms, (names (isEnum scrut) vts a).isSome) := by
  induction arms with
  | nil => exact ⟨[], rfl, by simp⟩
  | cons a rest ih =>
    obtain ⟨ds, hds, hiff⟩ := ih
    rw [List.forall_mem_cons, ← hiff]
    cases a with
    | qualified ty =>
      refine ⟨if vts.contains ty then ds else .notAVariant ty :: ds, ?_, ?_⟩
      · simp only [resolveArms, hds]
      · rw [ite_cons_eq_nil]
        simp [names]
    | shorthand n =>
      cases he : isEnum scrut with
      | false =>
        refine ⟨.mismatchEnum :: ds, ?_, ?_⟩
        · simp only [resolveArms, he, hds]
          rfl
        · simp [names]
      | true =>
        refine ⟨if (vts.find? (fun v => variantName? v == some n)).isSome then ds
          else .notAShorthandVariant n :: ds, ?_, ?_⟩
        · simp only [resolveArms, he, if_true, anyNamed_eq n vts (hv he), hds]
        · rw [ite_cons_eq_nil]
          simp [names]

/-- `names` is "the first variant `matches_arm` accepts" (for shorthand arms: on enums). -/
theorem names_eq_firstMatching (e : Bool) (vts : List Ty) (a : Arm)
    (he : ∀ n, a = .shorthand n → e = true) :
    names e vts a = firstMatching a vts := by
  cases a with
  | qualified ty => exact (firstMatching_qualified ty vts).symm
  | shorthand n => rw [firstMatching_shorthand, names, if_pos (he n rfl)]

/-- An arm that names a variant: a shorthand arm does so only on an enum, whose variants all have
names, so `matches_arm` does not panic on it. -/
theorem names_eq_firstMatching_of_isSome {e : Bool} {vts : List Ty} {a : Arm}
    (hvar : e = true → ∀ v ∈ vts, (variantName? v).isSome) (h : (names e vts a).isSome) :
    names e vts a = firstMatching a vts ∧ ∀ v ∈ vts, (matchesArm v a).isSome := by
  have he : ∀ n, a = .shorthand n → e = true := by
    rintro n rfl
    cases e
    · cases h
    · rfl
  refine ⟨names_eq_firstMatching e vts a he, fun v hv => ?_⟩
  cases a with
  | qualified ty => rfl
  | shorthand n =>
    obtain ⟨m, hm⟩ := Option.isSome_iff_exists.1 (hvar (he n rfl) v hv)
    simp [matchesArm, hm]

theorem check_spec (scrut : Ty) (vts : List Ty) (arms : List Arm) (dflt : Bool)
    (hsum : variantTys scrut.absoluteTy = some vts) (hnd : vts.Nodup)
    (hvar : isEnum scrut = true → ∀ v ∈ vts, (variantName? v).isSome) :
    ∃ ds, checkSwitch scrut arms dflt = .diags ds ∧
      (ds = [] ↔ Accepts (isEnum scrut) vts arms dflt) := by
  obtain ⟨ds, hres, hiff⟩ := resolveArms_spec scrut vts hvar arms
  unfold checkSwitch Accepts
  simp only [isSumTy_of_variantTys hsum, Bool.not_true, Bool.false_eq_true, if_false, hsum, hres]
  cases ds with
  | cons d ds' => exact ⟨d :: ds', rfl, by simp [← hiff]⟩
  | nil =>
    have hall := hiff.1 rfl
    have hsel := fun a ha => names_eq_firstMatching_of_isSome hvar (hall a ha)
    have hmap : arms.map (names (isEnum scrut) vts) = arms.map (firstMatching · vts) :=
      List.map_congr_left fun a ha => (hsel a ha).1
    obtain ⟨ds', hc, hds⟩ := coverArms_flagged hnd arms (fun a ha => (hsel a ha).2)
      (fun a ha => (hsel a ha).1 ▸ hall a ha) []
    have h0 : (vts.map fun v => (v, false)) = flagged vts [] := by simp [flagged]
    rw [h0, hc, hmap]
    rw [List.append_nil, and_iff_left List.nodup_nil] at hds
    refine ⟨_, rfl, ?_⟩
    cases dflt <;> simp [hds, uncovered_flagged, iff_true_intro hall]

theorem absoluteTy_of_variantTys {t : Ty} {vts : List Ty} (h : variantTys t = some vts) :
    t.absoluteTy = t := by
  rcases variantTys_eq_some h with ⟨_, rfl, _⟩ | ⟨_, _, rfl, _⟩ | ⟨_, _, rfl, _⟩ <;> rfl

/-- `hnil`: `has_sum_variant` tests `is_nil`, the variant list holds `nil`. -/
theorem resolveArmsPinned_eq (scrut : Ty) (vts : List Ty) (arms : List Arm)
    (hhead : variantTys scrut = some vts)
    (hnil : ∀ ty, Arm.qualified ty ∈ arms → ty.isNil = true → ty = .nil) :
    resolveArmsPinned scrut arms = resolveArms scrut vts arms := by
  induction arms with
  | nil => rfl
  | cons a rest ih =>
    have ih' := ih (fun ty h => hnil ty (by simp [h]))
    cases a with
    | qualified ty =>
      have hq : hasSumVariant scrut ty = vts.contains ty := by
        have hn := hnil ty (by simp)
        rcases variantTys_eq_some hhead with ⟨sub, rfl, rfl⟩ | ⟨e, p, rfl, rfl⟩ | ⟨uid, vs, rfl, rfl⟩
        · by_cases h2 : ty.isNil = true
          · simp [hasSumVariant, Ty.absoluteTy, hn h2, Ty.isNil]
          · have h3 : ty ≠ .nil := fun e => h2 (e ▸ rfl)
            simp [hasSumVariant, Ty.absoluteTy, h2, h3]
        · simp [hasSumVariant, Ty.absoluteTy]
        · rfl
      simp only [resolveArmsPinned, resolveArms, ih', hq]
    | shorthand n =>
      rcases variantTys_eq_some hhead with ⟨sub, rfl, rfl⟩ | ⟨e, p, rfl, rfl⟩ | ⟨uid, vs, rfl, rfl⟩ <;>
        simp [resolveArmsPinned, resolveArms, isEnum, Ty.absoluteTy, ih']

theorem manualPass_used (ms : List (Option Nat)) (used : List Nat) :
    (manualPass ms used).1 = ((manualPass ms used).2.1.filterMap id).reverse ++ used := by
  fun_induction manualPass ms used with
  | case1 used => rfl
  | case2 rest used u m d h ih =>
    -- no `| N`: `none` is recorded, which `filterMap` drops
    rw [h] at ih
    exact ih
  | case3 n rest used hn u m d h ih =>
    -- a reported `| N` is recorded as `none` too, and `used` stays
    rw [h] at ih
    exact ih
  | case4 n rest used hn u m d h ih =>
    -- a new `| N` is recorded and goes in front of `used`: behind the later ones after `reverse`
    rw [h] at ih
    simpa using ih

theorem manualPass_nodup (ms : List (Option Nat)) (used : List Nat) (h : used.Nodup) :
    (manualPass ms used).1.Nodup := by
  fun_induction manualPass ms used <;> simp_all  -- a value enters `used` only if not in it

theorem manualPass_length (ms : List (Option Nat)) (used : List Nat) :
    (manualPass ms used).2.1.length = ms.length := by
  -- every variant gets an entry, `none` where its `| N` is absent or reported
  fun_induction manualPass ms used <;> simp_all

theorem manualPass_kept (ms : List (Option Nat)) (used : List Nat)
    (h : (manualPass ms used).2.2 = []) : (manualPass ms used).2.1 = ms := by
  fun_induction manualPass ms used with
  | case1 used => rfl
  | case2 rest used u m d hr ih =>
    -- no `| N`: recorded as `none`, as written
    rw [hr] at ih
    exact congrArg (none :: ·) (ih h)
  | case3 n rest used hn u m d hr ih =>
    -- a repeated `| N` is reported (`DiscriminantUsedAlready`): excluded by `h`
    cases h
  | case4 n rest used hn u m d hr ih =>
    -- a new `| N` is recorded as written
    rw [hr] at ih
    exact congrArg (some n :: ·) (ih h)

theorem le_sum_of_mem {a : Nat} {l : List Nat} (h : a ∈ l) : a ≤ l.sum := by
  induction l with
  | nil => simp at h
  | cons b rest ih =>
    simp only [List.mem_cons] at h
    simp only [List.sum_cons]
    rcases h with h | h
    · omega
    · have := ih h; omega

theorem firstFree_spec (used : List Nat) (fuel d : Nat) (h : ∀ u ∈ used, u < d + fuel) :
    firstFree used d fuel ∉ used ∧ d ≤ firstFree used d fuel := by
  fun_induction firstFree used d fuel with
  | case1 d => exact ⟨fun hm => by have := h d hm; omega, Nat.le_refl _⟩
  | case2 d f hd ih =>
    have := ih fun u hu => by have := h u hu; omega
    exact ⟨this.1, by omega⟩
  | case3 d f hd => exact ⟨hd, Nat.le_refl _⟩

/-- fuel `used.sum + 1` is enough: no used value is above `used.sum` -/
theorem firstFree_used (used : List Nat) (latest : Nat) :
    firstFree used latest (used.sum + 1) ∉ used ∧ latest ≤ firstFree used latest (used.sum + 1) :=
  firstFree_spec used _ latest fun u hu => by have := le_sum_of_mem hu; omega

/-- `latest_discrim` never goes back -/
theorem le_of_next_le {d latest e : Nat} (h : (if d ≥ latest then d + 1 else latest) ≤ e) :
    latest ≤ e := by
  split at h <;> omega

theorem assignPass_length (used : List Nat) (ms : List (Option Nat)) (latest : Nat) :
    (assignPass used ms latest).length = ms.length := by
  -- one value per variant, whatever `latest` has become
  fun_induction assignPass used ms latest <;> simp_all

theorem assignPass_mem (used : List Nat) (ms : List (Option Nat)) (latest : Nat) :
    ∀ e ∈ assignPass used ms latest, some e ∈ ms ∨ (e ∉ used ∧ latest ≤ e) := by
  induction ms generalizing latest with
  | nil => nofun
  | cons m rest ih =>
    intro e he
    simp only [assignPass, List.mem_cons] at he
    rcases he with rfl | he
    · cases m with
      | some d => exact .inl List.mem_cons_self
      | none => exact .inr (firstFree_used used latest)
    · rcases ih _ e he with h | ⟨h1, h2⟩
      · exact .inl (List.mem_cons_of_mem _ h)
      · exact .inr ⟨h1, le_of_next_le h2⟩

/-- `latest` has passed every value handed out, and a fresh one is not in `used`. -/
theorem assignPass_nodup (used : List Nat) (ms : List (Option Nat))
    (hsub : ∀ d, some d ∈ ms → d ∈ used) (hnd : (ms.filterMap id).Nodup) (latest : Nat) :
    (assignPass used ms latest).Nodup := by
  induction ms generalizing latest with
  | nil => exact .nil
  | cons m rest ih =>
    have hsub' : ∀ d, some d ∈ rest → d ∈ used := fun d hd => hsub d (List.mem_cons_of_mem _ hd)
    simp only [assignPass]
    cases m with
    | none =>
      obtain ⟨hf1, hf2⟩ := firstFree_used used latest
      refine List.nodup_cons.2 ⟨fun hin => ?_, ih hsub' (by simpa using hnd) _⟩
      rcases assignPass_mem used rest _ _ hin with h | ⟨_, h⟩
      · exact hf1 (hsub' _ h)
      · rw [if_pos hf2] at h
        omega
    | some d =>
      have ⟨hd, hnd'⟩ : d ∉ rest.filterMap id ∧ (rest.filterMap id).Nodup := by simpa using hnd
      refine List.nodup_cons.2 ⟨fun hin => ?_, ih hsub' hnd' _⟩
      rcases assignPass_mem used rest _ _ hin with h | ⟨h, _⟩
      · exact hd (by simpa using h)
      · exact h (hsub d List.mem_cons_self)

/-- No hypothesis on the first pass: a repeated `| N` is treated as automatic and gets a fresh
value. -/
theorem discriminants_nodup (manual : List (Option Nat)) :
    (assignDiscriminants manual).2.Nodup ∧ (assignDiscriminants manual).2.length = manual.length := by
  have hu := manualPass_used manual []
  have hn := manualPass_nodup manual [] .nil
  rw [hu, List.append_nil, List.Nodup, List.pairwise_reverse] at hn
  have hsub : ∀ d, some d ∈ (manualPass manual []).2.1 → d ∈ (manualPass manual []).1 := by
    intro d hd
    rw [hu]
    simpa using hd
  exact ⟨assignPass_nodup _ _ hsub (hn.imp Ne.symm) 0,
    (assignPass_length _ _ 0).trans (manualPass_length manual [])⟩

theorem assignPass_manual (used : List Nat) (d : Nat) (ms : List (Option Nat)) (latest i : Nat)
    (h : ms[i]? = some (some d)) : (assignPass used ms latest)[i]? = some d := by
  fun_induction assignPass used ms latest generalizing i with
  | case1 => simp at h
  | case2 m rest latest d' ih =>
    cases i with
    | zero =>
      cases List.getElem?_cons_zero.symm.trans h
      rfl
    | succ j => exact ih j h

end CapyV.Switch
