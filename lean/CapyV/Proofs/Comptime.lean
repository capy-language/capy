import CapyV.Model.ComptimeWiden
import CapyV.Proofs.Layout
import CapyV.Proofs.Ty
/-! For C04: a captured result is embedded byte for byte, so the proofs need that `encode` / `decode`
round-trip and what `calc_single` (`finalTy`) can return for a type that holds no address. `PointerFree`
says "holds no address" on the type syntax, written from the property and not from `contains_pointer`,
with which it is then proved to agree. For C04Widen: `load_widen`. -/
namespace CapyV.Comptime
open CapyV CapyV.Layout

theorem leBytes_length (n v : Nat) : (leBytes n v).length = n := by
  induction n generalizing v with
  | zero => rfl
  | succ n ih => simp [leBytes, ih]

theorem leVal_leBytes (n v : Nat) : leVal (leBytes n v) = v % 256 ^ n := by
  induction n generalizing v with
  | zero => simp [leBytes, leVal, Nat.mod_one]
  | succ n ih =>
    simp only [leBytes, leVal, ih]
    rw [Nat.pow_succ, Nat.mul_comm (256 ^ n) 256, Nat.mod_mul]

theorem decode_encode (e : Endian) (n v : Nat) : decode e (encode e n v) = v % 256 ^ n := by
  cases e <;> simp [decode, encode, leVal_leBytes]

theorem encode_length (e : Endian) (n v : Nat) : (encode e n v).length = n := by
  cases e <;> simp [encode, leBytes_length]

theorem take_encode (e : Endian) (n v : Nat) : (encode e n v).take n = encode e n v := by
  rw [List.take_of_length_le]
  rw [encode_length]
  exact Nat.le_refl n

theorem cRead_append_nul (s rest : List Nat) (h : ∀ b ∈ s, b ≠ 0) : cRead (s ++ 0 :: rest) = s := by
  induction s with
  | nil => simp [cRead]
  | cons b s ih =>
    have hb : b ≠ 0 := h b (by simp)
    simp only [List.cons_append, cRead, hb, if_false]
    rw [ih (fun x hx => h x (by simp [hx]))]

theorem mod_mod_pow (v a : Nat) : v % 2 ^ a % 2 ^ a = v % 2 ^ a := Nat.mod_mod _ _

mutual
/-- No address anywhere inside a value of this type: written from the property, as an inductive
predicate on the type syntax (not from `contains_pointer`). -/
inductive PointerFree : Ty → Prop
  | notYetResolved : PointerFree .notYetResolved
  | unknown : PointerFree .unknown
  | iint (w) : PointerFree (.iint w)
  | uint (w) : PointerFree (.uint w)
  | float (w) : PointerFree (.float w)
  | bool : PointerFree .bool
  | char : PointerFree .char
  | type : PointerFree .type
  | file (n) : PointerFree (.file n)
  | nil : PointerFree .nil
  | void : PointerFree .void
  | alwaysJumps : PointerFree .alwaysJumps
  | anonArray (n) {s} : PointerFree s → PointerFree (.anonArray n s)
  | concreteArray (n) {s} : PointerFree s → PointerFree (.concreteArray n s)
  | distinct (u) {s} : PointerFree s → PointerFree (.distinct u s)
  | enumVariant (a b c d) {s} : PointerFree s → PointerFree (.enumVariant a b c s d)
  | optional {s} : PointerFree s → PointerFree (.optional s)
  | errorUnion {e p} : PointerFree e → PointerFree p → PointerFree (.errorUnion e p)
  | anonStruct {ms} : MembersPointerFree ms → PointerFree (.anonStruct ms)
  | concreteStruct (u) {ms} : MembersPointerFree ms → PointerFree (.concreteStruct u ms)
  | enum (u) {vs} : TysPointerFree vs → PointerFree (.enum u vs)
inductive MembersPointerFree : Members → Prop
  | nil : MembersPointerFree .nil
  | cons (n) {t r} : PointerFree t → MembersPointerFree r → MembersPointerFree (.cons n t r)
inductive TysPointerFree : Tys → Prop
  | nil : TysPointerFree .nil
  | cons {t r} : PointerFree t → TysPointerFree r → TysPointerFree (.cons t r)
end

mutual
theorem pointerFree_of_not_contains : ∀ t : Ty, containsPointer t = false → PointerFree t
  | .notYetResolved, _ => .notYetResolved
  | .unknown, _ => .unknown
  | .iint w, _ => .iint w
  | .uint w, _ => .uint w
  | .float w, _ => .float w
  | .bool, _ => .bool
  | .char, _ => .char
  | .type, _ => .type
  | .file n, _ => .file n
  | .nil, _ => .nil
  | .void, _ => .void
  | .alwaysJumps, _ => .alwaysJumps
  | .string, h | .slice _, h | .pointer _ _, h | .any, h | .rawPtr _, h | .rawSlice, h
  | .naivePolyFn _, h | .concreteFn _ _ _, h | .fnPointer _ _, h => Bool.noConfusion h
  | .anonArray n s, h => .anonArray n (pointerFree_of_not_contains s h)
  | .concreteArray n s, h => .concreteArray n (pointerFree_of_not_contains s h)
  | .distinct u s, h => .distinct u (pointerFree_of_not_contains s h)
  | .enumVariant a b c s d, h => .enumVariant a b c d (pointerFree_of_not_contains s h)
  | .optional s, h => .optional (pointerFree_of_not_contains s h)
  | .errorUnion e p, h =>
    have h := Bool.or_eq_false_iff.mp h
    .errorUnion (pointerFree_of_not_contains e h.1) (pointerFree_of_not_contains p h.2)
  | .anonStruct ms, h => .anonStruct (membersPointerFree_of_not_contains ms h)
  | .concreteStruct u ms, h => .concreteStruct u (membersPointerFree_of_not_contains ms h)
  | .enum u vs, h => .enum u (tysPointerFree_of_not_contains vs h)
theorem membersPointerFree_of_not_contains : ∀ ms : Members, membersContainPointer ms = false → MembersPointerFree ms
  | .nil, _ => .nil
  | .cons n t r, h =>
    have h := Bool.or_eq_false_iff.mp h
    .cons n (pointerFree_of_not_contains t h.1) (membersPointerFree_of_not_contains r h.2)
theorem tysPointerFree_of_not_contains : ∀ vs : Tys, tysContainPointer vs = false → TysPointerFree vs
  | .nil, _ => .nil
  | .cons t r, h =>
    have h := Bool.or_eq_false_iff.mp h
    .cons (pointerFree_of_not_contains t h.1) (tysPointerFree_of_not_contains r h.2)
end

mutual
theorem not_contains_of_pointerFree : ∀ {t : Ty}, PointerFree t → containsPointer t = false
  | _, .notYetResolved | _, .unknown | _, .iint _ | _, .uint _ | _, .float _ | _, .bool | _, .char
  | _, .type | _, .file _ | _, .nil | _, .void | _, .alwaysJumps => rfl
  | _, .anonArray _ h | _, .concreteArray _ h | _, .distinct _ h | _, .enumVariant _ _ _ _ h
  -- `(… :)`: elaborated without the expected type, which then matches by unfolding `containsPointer`
  | _, .optional h => (not_contains_of_pointerFree h :)
  | _, .errorUnion he hp =>
    Bool.or_eq_false_iff.mpr ⟨not_contains_of_pointerFree he, not_contains_of_pointerFree hp⟩
  | _, .anonStruct h | _, .concreteStruct _ h => (not_membersContain_of_pointerFree h :)
  | _, .enum _ h => (not_tysContain_of_pointerFree h :)
theorem not_membersContain_of_pointerFree : ∀ {ms : Members}, MembersPointerFree ms → membersContainPointer ms = false
  | _, .nil => rfl
  | _, .cons _ ht hr =>
    Bool.or_eq_false_iff.mpr ⟨not_contains_of_pointerFree ht, not_membersContain_of_pointerFree hr⟩
theorem not_tysContain_of_pointerFree : ∀ {vs : Tys}, TysPointerFree vs → tysContainPointer vs = false
  | _, .nil => rfl
  | _, .cons ht hr =>
    Bool.or_eq_false_iff.mpr ⟨not_contains_of_pointerFree ht, not_tysContain_of_pointerFree hr⟩
end

/-! `contains_pointer`, `is_zero_sized` and `calc_single` look through the wrappers that `absolute_ty`
strips, so each fact below is proved of `t.absoluteTy`, which is never a wrapper. -/

theorem containsPointer_absoluteTy (t : Ty) : containsPointer t.absoluteTy = containsPointer t :=
  Ty.absoluteTy_congr _ (fun _ _ => rfl) (fun _ _ _ _ _ => rfl) t

theorem finalTy_zeroSized (pw : Nat) (t : Ty) (h : t.isZeroSized = true) : finalTy pw t = some .void := by
  rw [finalTy.eq_def]
  split <;> exact if_pos h

theorem finalTy_absoluteTy (pw : Nat) (t : Ty) (h : t.isZeroSized = false) :
    finalTy pw t = finalTy pw t.absoluteTy := by
  fun_induction Ty.absoluteTy t with
  | case3 => rfl
  | case1 u s ih =>
    rw [finalTy, if_neg (by simp [h])]
    exact ih h
  | case2 a b c s d ih =>
    rw [finalTy, if_neg (by simp [h])]
    exact ih h

theorem finalTy_absoluteTy_of_ne_void {pw : Nat} {t : Ty} {f : FinalTy} (h : finalTy pw t = some f)
    (hf : f ≠ .void) : finalTy pw t.absoluteTy = some f ∧ t.absoluteTy.isZeroSized = false := by
  have hz : t.isZeroSized = false := by
    cases hz : t.isZeroSized
    · rfl
    · rw [finalTy_zeroSized pw t hz] at h
      exact absurd (Option.some.inj h).symm hf
  rw [Ty.isZeroSized_absoluteTy, ← finalTy_absoluteTy pw t hz]
  exact ⟨h, hz⟩

theorem isStr_iff (t : Ty) : isStr t = true ↔ t.absoluteTy = .string := by
  unfold isStr
  split <;> simp_all

theorem isStr_final (pw : Nat) (t : Ty) (h : isStr t = true) : finalTy pw t = some .pointer := by
  rw [isStr_iff] at h
  have hz : t.isZeroSized = false := by
    rw [← Ty.isZeroSized_absoluteTy, h]
    rfl
  rw [finalTy_absoluteTy pw t hz, h]
  rfl

theorem isPointer_contains (s : Ty) (h : s.isPointer = true) : containsPointer s = true := by
  rw [← containsPointer_absoluteTy]
  rcases Ty.absoluteTy_of_isPointer h with ⟨_, _, e⟩ | ⟨_, e⟩
  · rw [e]
    rfl
  · rw [e]
    rfl

/-- the three arms of `finalize_int`: pointer sized, weak (`i32`), a real width -/
theorem finalizeInt_some {pw w : Nat} {sg : Bool} {f : FinalTy} (h : finalizeInt pw w sg = some f) :
    ∃ bits s, f = .number bits false s ∧
      (bits = pw ∨ bits = 32 ∨ bits = w ∧ (w = 8 ∨ w = 16 ∨ w = 32 ∨ w = 64 ∨ w = 128)) := by
  unfold finalizeInt at h
  split at h
  · cases h
    exact ⟨pw, sg, rfl, .inl rfl⟩
  split at h
  · cases h
    exact ⟨32, true, rfl, .inr (.inl rfl)⟩
  split at h
  · next hw =>
    cases h
    exact ⟨w, sg, rfl, .inr (.inr ⟨rfl, hw⟩)⟩
  · cases h

theorem finalizeInt_ne_pointer (pw w : Nat) (sg : Bool) : finalizeInt pw w sg ≠ some .pointer := by
  intro h
  obtain ⟨_, _, e, _⟩ := finalizeInt_some h
  cases e

theorem finalizeInt_bits {pw w : Nat} {sg : Bool} (hpw : okPw pw = true) {bits : Nat} {fl s : Bool}
    (h : finalizeInt pw w sg = some (.number bits fl s)) :
    fl = false ∧ (bits = 8 ∨ bits = 16 ∨ bits = 32 ∨ bits = 64 ∨ bits = 128) := by
  obtain ⟨_, _, e, hb⟩ := finalizeInt_some h
  cases e
  refine ⟨rfl, ?_⟩
  rcases hb with rfl | rfl | ⟨rfl, hw⟩
  · rcases okPw_cases hpw with rfl | rfl | rfl <;> decide
  · decide
  · exact hw

/-- `is_aggregate` for a type whose final type is `Pointer` and that holds no address: it is an
array, a struct, an enum, an error union or a tagged optional. -/
theorem aggregate_of_pointer_final (pw : Nat) (t : Ty) (hc : containsPointer t = false)
    (hf : finalTy pw t = some .pointer) : t.isAggregate = true := by
  obtain ⟨hf, hz⟩ := finalTy_absoluteTy_of_ne_void hf nofun
  rw [← containsPointer_absoluteTy] at hc
  have ha : t.isAggregate = t.absoluteTy.isAggregate := by
    unfold Ty.isAggregate
    rw [Ty.absoluteTy_idem]
  rw [ha]
  obtain ⟨hd, hv⟩ := Ty.absoluteTy_ne_wrapper t
  generalize t.absoluteTy = u at hc hf hz hd hv ⊢
  cases u
  case distinct => exact absurd rfl (hd _ _)
  case enumVariant => exact absurd rfl (hv _ _ _ _ _)
  case optional s =>
    have : s.isPointer = false := by
      cases hs : s.isPointer
      · rfl
      · rw [containsPointer, isPointer_contains s hs] at hc
        cases hc
    simp [Ty.isAggregate, Ty.absoluteTy, Ty.isNonZero, this]
  case iint w | uint w =>
    simp only [finalTy, hz, Bool.false_eq_true, if_false] at hf
    repeat' split at hf
    all_goals exact absurd hf (finalizeInt_ne_pointer _ _ _)
  case float w =>
    simp only [finalTy, hz, Bool.false_eq_true, if_false] at hf
    repeat' split at hf
    all_goals cases hf
  case anonArray | concreteArray | anonStruct | concreteStruct | enum | errorUnion => rfl
  case string | slice | pointer | any | rawPtr | rawSlice | naivePolyFn | concreteFn | fnPointer =>
    cases hc
  case notYetResolved | unknown | nil | void | alwaysJumps | file => cases hz
  case bool | char | type => simp [finalTy, hz] at hf

theorem number_bits (pw : Nat) (hpw : okPw pw = true) (t : Ty) {bits : Nat} {fl s : Bool}
    (h : finalTy pw t = some (.number bits fl s)) :
    (fl = false ∧ (bits = 8 ∨ bits = 16 ∨ bits = 32 ∨ bits = 64 ∨ bits = 128)) ∨
    (fl = true ∧ (bits = 32 ∨ bits = 64)) := by
  obtain ⟨h, hz⟩ := finalTy_absoluteTy_of_ne_void h nofun
  obtain ⟨hd, hv⟩ := Ty.absoluteTy_ne_wrapper t
  generalize t.absoluteTy = u at h hz hd hv
  rw [finalTy.eq_def] at h
  split at h
  · exact absurd rfl (hd _ _)
  · exact absurd rfl (hv _ _ _ _ _)
  · simp only [hz, Bool.false_eq_true, if_false] at h
    repeat' split at h
    -- every arm names its final type, except the integers, which go through `finalize_int`
    all_goals first | (cases h <;> simp) | exact .inl (finalizeInt_bits hpw h)

/-- the widths of `run_comptime_int` and `IntBytes::into_bytes` are whole bytes -/
theorem eight_dvd_width {bits : Nat} (h : bits = 8 ∨ bits = 16 ∨ bits = 32 ∨ bits = 64) : 8 ∣ bits := by
  rcases h with rfl | rfl | rfl | rfl <;> decide

theorem pow256_eq_two_pow {bits : Nat} (h : 8 ∣ bits) : 256 ^ (bits / 8) = 2 ^ bits := by
  obtain ⟨n, rfl⟩ := h
  rw [Nat.mul_div_cancel_left n (by decide), Nat.pow_mul]

theorem extend_lt (signed : Bool) {f t : Nat} (v : Nat) (hft : f ≤ t) : extend signed f t v < 2 ^ t := by
  have hv : v % 2 ^ f < 2 ^ f := Nat.mod_lt _ (Nat.two_pow_pos f)
  have hle : 2 ^ f ≤ 2 ^ t := Nat.pow_le_pow_right (by decide) hft
  simp only [extend]
  split <;> omega

theorem extend_mod (signed : Bool) (f t v : Nat) : extend signed f t (v % 2 ^ f) = extend signed f t v := by
  simp only [extend, Nat.mod_mod]

/-- The load takes exactly the bytes that were stored, whatever follows them. -/
theorem load_widen (e : Endian) (signed : Bool) {f t : Nat} (v : Nat) (neighbour : List Nat)
    (hf : 8 ∣ f) (ht : 8 ∣ t) (hft : f ≤ t) :
    loadBits e t (widenIntBytes e signed f t (encode e (f / 8) (v % 2 ^ f)) ++ neighbour)
      = extend signed f t v := by
  unfold loadBits widenIntBytes
  rw [List.take_left' (encode_length ..), decode_encode, decode_encode, pow256_eq_two_pow hf,
    pow256_eq_two_pow ht, Nat.mod_mod, extend_mod]
  exact Nat.mod_eq_of_lt (extend_lt signed v hft)

end CapyV.Comptime
