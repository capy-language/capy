import CapyV.Model.TypeId
import CapyV.Proofs.Layout
import CapyV.Proofs.Ty
/-! For C18, three things. The bit fields of an id can be split off again (`packed`). The table invariant
`Inv`: every entry carries the id that its kind's counter prescribed when it was registered, so a compound
id decodes to the entry's position among the types of its kind. The simple ids are a finite table (pointer
widths × well-formed widths), checked row by row by evaluation (`simpleCheck`). -/
namespace CapyV.TypeId
open CapyV CapyV.TypeIds

/-! A field `y < 2 ^ k` put next to `x <<< k` adds to it, and division and remainder by powers of
two split the two again: the id arithmetic below is these four facts, applied field by field. -/

theorem shl_or (x : Nat) {k y : Nat} (hy : y < 2 ^ k) : x <<< k ||| y = x * 2 ^ k + y := by
  rw [← Nat.shiftLeft_add_eq_or_of_lt hy, Nat.shiftLeft_eq]

theorem div_pack (x : Nat) {k y : Nat} (hy : y < 2 ^ k) : (x * 2 ^ k + y) / 2 ^ k = x := by
  rw [Nat.add_comm, Nat.add_mul_div_right _ _ (Nat.two_pow_pos k), Nat.div_eq_of_lt hy, Nat.zero_add]

theorem div_pack_add (x : Nat) {k y : Nat} (hy : y < 2 ^ k) (j : Nat) :
    (x * 2 ^ k + y) / 2 ^ (k + j) = x / 2 ^ j := by
  rw [Nat.pow_add, ← Nat.div_div_eq_div_mul, div_pack x hy]

theorem mod_pack (x : Nat) {j k y : Nat} (hjk : j ≤ k) (hy : y < 2 ^ j) : (x * 2 ^ k + y) % 2 ^ j = y := by
  obtain ⟨i, rfl⟩ := Nat.exists_eq_add_of_le hjk
  rw [Nat.pow_add, Nat.mul_left_comm, Nat.add_comm, Nat.add_mul_mod_self_left, Nat.mod_eq_of_lt hy]

/-! The decoders in arithmetic. The literals are the generated `Capy.*` shifts and masks, unfolded by
definitional equality: a regenerated table with other values breaks here first. -/

theorem decDisc_eq (x : Nat) : decDisc x = x / 2 ^ 26 := Nat.shiftRight_eq_div_pow ..

theorem decSize_eq (x : Nat) : decSize x = x % 2 ^ 5 := Nat.and_two_pow_sub_one_eq_mod x 5

theorem decAlign_eq (x : Nat) : decAlign x = x / 2 ^ 5 % 2 ^ 4 := by
  rw [← Nat.shiftRight_eq_div_pow]
  exact Nat.and_two_pow_sub_one_eq_mod _ 4

theorem decSign_eq (x : Nat) : decSign x = (x / 2 ^ 9 % 2 ^ 1 != 0) := by
  rw [← Nat.shiftRight_eq_div_pow]
  exact congrArg (· != 0) (Nat.and_two_pow_sub_one_eq_mod _ 1)

theorem decIndex_eq (x : Nat) : decIndex x = x % 2 ^ 26 := Nat.and_two_pow_sub_one_eq_mod x 26

theorem decBitWidth_eq (x : Nat) : decBitWidth x = decSize x * 8 % 256 := rfl

theorem lt_of_decDisc {x : Nat} (h : decDisc x < 64) : x < 2 ^ 32 :=
  (Nat.div_lt_iff_lt_mul (Nat.two_pow_pos 26)).mp (decDisc_eq x ▸ h)

/-- The value of a simple id with fields `d`, `a`, `s` and sign bit `b`, each shifted past the
ones below it: the exponents are the differences of the generated shifts, 26 − 9, 9 − 5 and 5. -/
def packed (d b a s : Nat) : Nat := ((d * 2 ^ 17 + b) * 2 ^ 4 + a) * 2 ^ 5 + s

theorem packed_eq {d b a s : Nat} (hb : b < 2) (ha : a < 16) (hs : s < 32) :
    d <<< 26 ||| b <<< 9 ||| a <<< 5 ||| s = packed d b a s := by
  have hb : b < 2 ^ 17 := Nat.lt_of_lt_of_le hb (by decide)
  rw [packed, ← shl_or _ hb, ← shl_or (k := 4) _ ha, ← shl_or (k := 5) _ hs]
  simp only [Nat.shiftLeft_or_distrib, ← Nat.shiftLeft_add]

theorem decDisc_packed {d b a s : Nat} (hb : b < 2) (ha : a < 16) (hs : s < 32) :
    decDisc (packed d b a s) = d :=
  (decDisc_eq _).trans <| (div_pack_add _ hs 21).trans <|
    (div_pack_add _ ha 17).trans (div_pack d (Nat.lt_of_lt_of_le hb (by decide)))

theorem decSign_packed {d b a s : Nat} (hb : b < 2) (ha : a < 16) (hs : s < 32) :
    decSign (packed d b a s) = (b != 0) :=
  (decSign_eq _).trans <| congrArg (· != 0) <|
    (congrArg (· % 2 ^ 1) ((div_pack_add _ hs 4).trans (div_pack _ ha))).trans
      (mod_pack d (by decide) hb)

theorem decAlign_packed {d b a s : Nat} (ha : a < 16) (hs : s < 32) : decAlign (packed d b a s) = a :=
  (decAlign_eq _).trans <|
    (congrArg (· % 2 ^ 4) (div_pack _ hs)).trans (mod_pack _ (Nat.le_refl 4) ha)

theorem decSize_packed {d b a s : Nat} (hs : s < 32) : decSize (packed d b a s) = s :=
  (decSize_eq _).trans (mod_pack _ (Nat.le_refl 5) hs)

theorem simpleIdWithAlign_val {d s a : Nat} (sg : Bool) (hd : d < Rust.discLimit)
    (hs : s < Rust.sizeLimit) (ha : a < Rust.alignLimit) :
    simpleIdWithAlign d s a sg = some (packed d sg.toNat a s) := by
  have : (if sg then 1 else 0) = sg.toNat := by cases sg <;> rfl
  rw [simpleIdWithAlign, if_pos ⟨hd, hs, ha⟩, this]
  exact congrArg some (packed_eq (Bool.toNat_lt sg) (Nat.lt_succ_of_lt ha) (Nat.lt_succ_of_lt hs))

theorem compound_dec (d : Nat) {idx : Nat} (hidx : idx < 2 ^ 26) :
    decDisc ((d <<< Rust.compoundShift) ||| idx) = d ∧
      decIndex ((d <<< Rust.compoundShift) ||| idx) = idx := by
  rw [Rust.compoundShift, shl_or d hidx, decDisc_eq, decIndex_eq]
  exact ⟨div_pack d hidx, mod_pack d (Nat.le_refl 26) hidx⟩

def keys (l : List (Ty × Nat)) : List Ty := l.map Prod.fst

theorem find_none_iff {t : Ty} : ∀ {l : List (Ty × Nat)}, find t l = none ↔ t ∉ keys l
  | [] => ⟨fun _ => List.not_mem_nil, fun _ => rfl⟩
  | (u, id) :: rest => by
    rw [find, keys, List.map_cons, List.mem_cons, not_or]
    split
    · next h => exact ⟨nofun, fun hh => absurd h.symm hh.1⟩
    · next h => exact find_none_iff.trans ⟨fun hh => ⟨fun e => h e.symm, hh⟩, And.right⟩

theorem find_some_mem {t : Ty} {id : Nat} : ∀ {l : List (Ty × Nat)}, find t l = some id → (t, id) ∈ l
  | (u, i) :: rest, h => by
    rw [find] at h
    split at h
    · next hu =>
      cases h
      exact hu ▸ List.mem_cons_self
    · exact List.mem_cons_of_mem _ (find_some_mem h)

theorem find_of_mem {t : Ty} {id : Nat} : ∀ {l : List (Ty × Nat)}, (keys l).Nodup → (t, id) ∈ l →
    find t l = some id
  | (u, i) :: rest, hn, h => by
    have ⟨hu, hn⟩ := List.nodup_cons.mp hn
    rw [find]
    rcases List.mem_cons.mp h with h | h
    · cases h
      exact if_pos rfl
    · rw [if_neg, find_of_mem hn h]
      rintro rfl
      exact hu (List.mem_map.mpr ⟨_, h, rfl⟩)

theorem find_append (t : Ty) (m : List (Ty × Nat)) : ∀ l : List (Ty × Nat),
    find t (l ++ m) = (find t l).or (find t m)
  | [] => rfl
  | (u, i) :: rest => by
    simp only [List.cons_append, find]
    split
    · rfl
    · exact find_append t m rest

theorem find_append_left {t : Ty} {id : Nat} {m : List (Ty × Nat)} : ∀ {l : List (Ty × Nat)},
    find t l = some id → find t (l ++ m) = some id := by
  intro l h
  rw [find_append, h]
  rfl

def countKind (k : Kind) (l : List (Ty × Nat)) : Nat :=
  (l.filter fun e => kindOf e.1 == some k).length

theorem countKind_cons (k : Kind) (e : Ty × Nat) (l : List (Ty × Nat)) :
    countKind k (e :: l) = (if kindOf e.1 = some k then 1 else 0) + countKind k l := by
  unfold countKind
  by_cases h : kindOf e.1 = some k
  · simp [h]
    omega
  · simp [h]

theorem countKind_append (k : Kind) (l m : List (Ty × Nat)) :
    countKind k (l ++ m) = countKind k l + countKind k m := by
  simp [countKind, List.filter_append]

/-- the id an entry must carry, given the per-kind counts `cnt` of the entries before it -/
def entryOk (pw : Nat) (cnt : Kind → Nat) (e : Ty × Nat) : Prop :=
  match kindOf e.1 with
  | some k => e.2 = (k.disc <<< Rust.compoundShift) ||| cnt k
  | none => simpleIdOf pw e.1 = some e.2

/-- the counters after an entry of type `t`: `GoodFrom` threads them through the table -/
def step (c : Kind → Nat) (t : Ty) : Kind → Nat :=
  match kindOf t with
  | some k => bump c k
  | none => c

/-- Every entry of the list carries the id it must (`entryOk`), where `c k` is the number of entries
of kind `k` registered before the list; `step` advances `c` past an entry. -/
def GoodFrom (pw : Nat) : (Kind → Nat) → List (Ty × Nat) → Prop
  | _, [] => True
  | c, e :: rest => entryOk pw c e ∧ GoodFrom pw (step c e.1) rest

theorem step_count (c : Kind → Nat) (e : Ty × Nat) (rest : List (Ty × Nat)) :
    (fun k => step c e.1 k + countKind k rest) = fun k => c k + countKind k (e :: rest) := by
  funext k
  rw [countKind_cons]
  unfold step
  cases hk : kindOf e.1 with
  | none => simp
  | some k' =>
    by_cases h : k' = k
    · subst h
      simp [bump]
      omega
    · have h' : ¬ k = k' := fun e => h e.symm
      simp [bump, h, h']

theorem GoodFrom.append {pw : Nat} (m : List (Ty × Nat)) : ∀ (l : List (Ty × Nat)) (c : Kind → Nat),
    GoodFrom pw c (l ++ m) ↔ GoodFrom pw c l ∧ GoodFrom pw (fun k => c k + countKind k l) m
  | [], c => by simp [GoodFrom, countKind]
  | e :: l, c => by
    simp only [List.cons_append, GoodFrom, GoodFrom.append m l, step_count, and_assoc]

theorem GoodFrom.entry {pw : Nat} {c : Kind → Nat} {l : List (Ty × Nat)} {e : Ty × Nat}
    (hg : GoodFrom pw c l) (h : e ∈ l) :
    ∃ l1 l2, l = l1 ++ e :: l2 ∧ entryOk pw (fun k => c k + countKind k l1) e := by
  obtain ⟨l1, l2, rfl⟩ := List.append_of_mem h
  exact ⟨l1, l2, rfl, ((GoodFrom.append _ l1 c).mp hg).2.1⟩

theorem GoodFrom.simple {pw : Nat} {t : Ty} {id : Nat} (hk : kindOf t = none) :
    ∀ (l : List (Ty × Nat)) (c : Kind → Nat), GoodFrom pw c l → (t, id) ∈ l → simpleIdOf pw t = some id := by
  intro l c hg h
  obtain ⟨_, _, _, he⟩ := hg.entry h
  simpa only [entryOk, hk] using he

/-- The invariant of `MetaTyData`. -/
structure Inv (pw : Nat) (st : St) : Prop where
  lock : st.toCompile = keys st.ids
  ctr : ∀ k, st.ctr k = countKind k st.ids
  good : GoodFrom pw (fun _ => 0) st.ids
  nodup : (keys st.ids).Nodup

theorem Inv.empty (pw : Nat) : Inv pw St.empty :=
  ⟨rfl, fun _ => rfl, trivial, List.nodup_nil⟩

theorem keys_snoc (l : List (Ty × Nat)) (e : Ty × Nat) : keys (l ++ [e]) = keys l ++ [e.1] := by
  simp [keys]

/-- the state that both `finish` and `pushSimple` produce -/
theorem Inv.push {pw : Nat} {st : St} (hinv : Inv pw st) {t : Ty} {id : Nat}
    (hnone : find t st.ids = none) (he : entryOk pw st.ctr (t, id)) :
    Inv pw ⟨st.ids ++ [(t, id)], st.toCompile ++ [t], step st.ctr t⟩ := by
  have hc : st.ctr = fun k => 0 + countKind k st.ids := by
    funext k
    rw [hinv.ctr, Nat.zero_add]
  have hsnoc : (keys st.ids ++ [t]).Nodup := by
    refine List.nodup_append.mpr ⟨hinv.nodup, List.pairwise_singleton .., fun a ha b hb e => ?_⟩
    have hat : a = t := e.trans (List.mem_singleton.mp hb)
    exact find_none_iff.mp hnone (hat ▸ ha)
  refine ⟨?_, fun k => ?_, ?_, ?_⟩
  · simp [keys_snoc, hinv.lock]
  · have := congrFun (step_count st.ctr (t, id) []) k
    rw [countKind_append, ← hinv.ctr]
    simpa [countKind] using this
  · exact (GoodFrom.append _ _ _).mpr ⟨hinv.good, hc ▸ he, trivial⟩
  · rw [keys_snoc]
    exact hsnoc

/-- The bound on what was added is what shows a type with more nodes still absent (`Ext.find_none`). -/
def Ext (st st' : St) (bound : Nat) : Prop :=
  ∃ added, st'.ids = st.ids ++ added ∧ ∀ e ∈ added, e.1.nodes ≤ bound

theorem Ext.refl (st : St) (n : Nat) : Ext st st n := ⟨[], by simp, by simp⟩

theorem Ext.trans {a b c : St} {n m N : Nat} (h1 : Ext a b n) (h2 : Ext b c m) (hn : n ≤ N)
    (hm : m ≤ N) : Ext a c N := by
  obtain ⟨x, hx, hxn⟩ := h1
  obtain ⟨y, hy, hyn⟩ := h2
  refine ⟨x ++ y, by rw [hy, hx, List.append_assoc], ?_⟩
  intro e he
  rcases List.mem_append.mp he with he | he
  · exact Nat.le_trans (hxn e he) hn
  · exact Nat.le_trans (hyn e he) hm

theorem Ext.mono {a b : St} {n m : Nat} (h : Ext a b n) (hnm : n ≤ m) : Ext a b m :=
  h.trans (Ext.refl b 0) hnm (Nat.zero_le m)

theorem Ext.find_none {st0 st1 : St} {n : Nat} {t : Ty} (h : Ext st0 st1 n) (hn : n < t.nodes)
    (hnone : find t st0.ids = none) : find t st1.ids = none := by
  obtain ⟨added, hx, hb⟩ := h
  rw [hx, find_append, hnone, Option.none_or, find_none_iff]
  intro hmem
  obtain ⟨e, he, rfl⟩ := List.mem_map.mp hmem
  exact Nat.lt_irrefl _ (Nat.lt_of_le_of_lt (hb e he) hn)

/-- `P`, `PM`, `PT`: what the mutual induction `toTypeId_ok` / `membersIds_ok` / `tysIds_ok` carries for a
type, a member list, a variant list. -/
def P (pw : Nat) (t : Ty) : Prop :=
  ∀ st id st', Inv pw st → toTypeId pw t st = some (id, st') →
    Inv pw st' ∧ Ext st st' t.nodes ∧ find t st'.ids = some id

def PM (pw : Nat) (ms : Members) : Prop :=
  ∀ st st', Inv pw st → membersIds pw ms st = some st' → Inv pw st' ∧ Ext st st' ms.nodes

def PT (pw : Nat) (vs : Tys) : Prop :=
  ∀ st st', Inv pw st → tysIds pw vs st = some st' → Inv pw st' ∧ Ext st st' vs.nodes

theorem contains_iff {pw : Nat} {st : St} (hinv : Inv pw st) (t : Ty) :
    st.toCompile.contains t = (find t st.ids).isSome := by
  rw [hinv.lock]
  cases h : find t st.ids with
  | none =>
    have := find_none_iff.mp h
    simp [this]
  | some id =>
    have : t ∈ keys st.ids := List.mem_map.mpr ⟨(t, id), find_some_mem h, rfl⟩
    simp [this]

/-- the sub-types an arm of `to_type_id` registers before the type itself -/
def children (pw : Nat) (t : Ty) (st : St) : Option St :=
  match t with
  | .anonArray _ s | .concreteArray _ s | .slice s | .pointer _ s | .distinct _ s
  | .enumVariant _ _ _ s _ | .optional s =>
    match toTypeId pw s st with
    | some r => some r.2
    | none => none
  | .errorUnion e p =>
    match toTypeId pw e st with
    | some r =>
      match toTypeId pw p r.2 with
      | some r2 => some r2.2
      | none => none
    | none => none
  | .anonStruct ms | .concreteStruct _ ms => membersIds pw ms st
  | .enum _ vs => tysIds pw vs st
  | _ => some st

/-- what `to_type_id` does with a type the table does not hold yet: every compound arm registers
the sub-types and then calls `finish` with its kind, every other arm pushes the simple id -/
def fresh (pw : Nat) (t : Ty) (st : St) : Option (Nat × St) :=
  match kindOf t with
  | some k =>
    match children pw t st with
    | some st1 => some (finish k t st1)
    | none => none
  | none =>
    match simpleIdOf pw t with
    | some id => some (pushSimple t id st)
    | none => none

theorem toTypeId_eq (pw : Nat) (t : Ty) (st : St) : toTypeId pw t st =
    match find t st.ids with
    | some id => if st.toCompile.contains t then some (id, st) else none
    | none => if st.toCompile.contains t then none else fresh pw t st := by
  rw [toTypeId.eq_def]
  cases find t st.ids with
  | some id => rfl
  | none =>
    cases st.toCompile.contains t with
    | true => rfl
    | false =>
      cases t
      -- where `children` threads an option through, the two sides match it in a different order
      case anonArray _ s | concreteArray _ s | slice s | pointer _ s | distinct _ s
        | enumVariant _ _ _ s _ | optional s =>
        simp only [fresh, kindOf, children]
        cases toTypeId pw s st <;> rfl
      case errorUnion e p =>
        simp only [fresh, kindOf, children]
        cases toTypeId pw e st with
        | none => rfl
        | some r => dsimp only; cases toTypeId pw p r.2 <;> rfl
      all_goals rfl

/-- The bound on what the sub-types add shows that `t` itself is still absent when `finish` runs. -/
theorem P_of_children {pw : Nat} {t : Ty}
    (hc : ∀ st st1, Inv pw st → children pw t st = some st1 → Inv pw st1 ∧ Ext st st1 (t.nodes - 1)) :
    P pw t := by
  intro st id st' hinv h
  rw [toTypeId_eq] at h
  cases hf : find t st.ids with
  | some i =>
    simp only [hf, contains_iff hinv t, Option.isSome_some, if_true, Option.some.injEq, Prod.mk.injEq] at h
    obtain ⟨rfl, rfl⟩ := h
    exact ⟨hinv, Ext.refl _ _, hf⟩
  | none =>
    simp only [hf, contains_iff hinv t, Option.isSome_none, Bool.false_eq_true, if_false, fresh] at h
    -- either way `(t, id)` is pushed onto a state `st1` that extends `st` by smaller types
    suffices ∃ st1, Inv pw st1 ∧ Ext st st1 (t.nodes - 1) ∧ entryOk pw st1.ctr (t, id) ∧
        st' = ⟨st1.ids ++ [(t, id)], st1.toCompile ++ [t], step st1.ctr t⟩ by
      obtain ⟨st1, hinv1, hext, he, rfl⟩ := this
      have hlt : t.nodes - 1 < t.nodes := Nat.sub_lt t.nodes_pos Nat.one_pos
      have hnone := hext.find_none hlt hf
      have hfound : find t (st1.ids ++ [(t, id)]) = some id := by
        rw [find_append, hnone]
        exact if_pos rfl
      refine ⟨hinv1.push hnone he, ?_, hfound⟩
      refine hext.trans ⟨[(t, id)], rfl, ?_⟩ (Nat.le_of_lt hlt) (Nat.le_refl _)
      intro e he
      rw [List.mem_singleton.mp he]
      exact Nat.le_refl _
    cases hk : kindOf t with
    | some k =>
      cases hch : children pw t st with
      | none => simp [hk, hch] at h
      | some st1 =>
        simp only [hk, hch, Option.some.injEq, finish, Prod.mk.injEq] at h
        obtain ⟨hinv1, hext⟩ := hc st st1 hinv hch
        refine ⟨st1, hinv1, hext, ?_, ?_⟩
        · simp only [entryOk, hk, h.1]
        · simp only [step, hk, ← h.2, ← h.1]
    | none =>
      cases hs : simpleIdOf pw t with
      | none => simp [hk, hs] at h
      | some i =>
        simp only [hk, hs, Option.some.injEq, pushSimple, Prod.mk.injEq] at h
        refine ⟨st, hinv, Ext.refl _ _, ?_, ?_⟩
        · simp only [entryOk, hk, hs, h.1]
        · simp only [step, hk, ← h.2, ← h.1]

/-- The `match … = some st'` is what `children`, `membersIds` and `tysIds` unfold to. -/
theorem P.andThen {pw : Nat} {t : Ty} (ih : P pw t) {f : St → Option St} {n : Nat}
    (hf : ∀ st st', Inv pw st → f st = some st' → Inv pw st' ∧ Ext st st' n) (st st' : St)
    (hinv : Inv pw st)
    (h : (match toTypeId pw t st with | some r => f r.2 | none => none) = some st') :
    Inv pw st' ∧ Ext st st' (t.nodes + n) := by
  cases hs : toTypeId pw t st with
  | none => simp [hs] at h
  | some r =>
    simp only [hs] at h
    obtain ⟨hinv1, hext1, _⟩ := ih st r.1 r.2 hinv hs
    obtain ⟨hinv2, hext2⟩ := hf r.2 st' hinv1 h
    exact ⟨hinv2, hext1.trans hext2 (Nat.le_add_right _ _) (Nat.le_add_left _ _)⟩

/-- the continuation `f = some`: after the last sub-type, for `.nil` lists and leaf types -/
theorem andThen_nil {pw n : Nat} (st st' : St) (hinv : Inv pw st) (h : some st = some st') :
    Inv pw st' ∧ Ext st st' n :=
  Option.some.inj h ▸ ⟨hinv, Ext.refl _ _⟩

mutual
theorem toTypeId_ok (pw : Nat) : (t : Ty) → P pw t
  -- `P_of_children` wants the bound `t.nodes - 1`; for a constructor that evaluates (`Ty.nodes`) to the sum of
  -- the sub-types' nodes, which is what `andThen` adds up: hence `n := 0` for the empty continuation
  | .anonArray _ s | .concreteArray _ s | .slice s | .pointer _ s | .distinct _ s
  | .enumVariant _ _ _ s _ | .optional s =>
    P_of_children ((toTypeId_ok pw s).andThen (andThen_nil (n := 0)))
  | .errorUnion e p => P_of_children
      ((toTypeId_ok pw e).andThen ((toTypeId_ok pw p).andThen (andThen_nil (n := 0))))
  | .anonStruct ms | .concreteStruct _ ms => P_of_children (membersIds_ok pw ms)
  | .enum _ vs => P_of_children (tysIds_ok pw vs)
  | .notYetResolved | .unknown | .iint _ | .uint _ | .float _ | .bool | .string | .char | .type | .any
  | .rawPtr _ | .rawSlice | .file _ | .naivePolyFn _ | .concreteFn _ _ _ | .fnPointer _ _ | .nil | .void
  | .alwaysJumps => P_of_children andThen_nil
theorem membersIds_ok (pw : Nat) : (ms : Members) → PM pw ms
  | .nil => andThen_nil
  | .cons _ t rest => fun st st' hinv h =>
    ((toTypeId_ok pw t).andThen (membersIds_ok pw rest) st st' hinv h).imp_right
      (·.mono (Nat.le_succ _))
theorem tysIds_ok (pw : Nat) : (vs : Tys) → PT pw vs
  | .nil => andThen_nil
  | .cons t rest => fun st st' hinv h =>
    ((toTypeId_ok pw t).andThen (tysIds_ok pw rest) st st' hinv h).imp_right
      (·.mono (Nat.le_succ _))
end

theorem typeIdsFrom_ok (pw : Nat) : ∀ (ts : List Ty) (st : St) (ids : List Nat) (st' : St),
    Inv pw st → typeIdsFrom pw ts st = some (ids, st') → Inv pw st'
  | [], st, ids, st', hinv, h => by
    cases h
    exact hinv
  | t :: rest, st, ids, st', hinv, h => by
    rw [typeIdsFrom] at h
    split at h
    · cases h
    · rename_i id st1 hs
      split at h
      · cases h
      · rename_i ids2 st2 hr
        cases h
        exact typeIdsFrom_ok pw rest st1 _ _ (toTypeId_ok pw t st id st1 hinv hs).1 hr

/-- The explicit list of id coincidences: the representative a type shares its id with. -/
def canon (pw : Nat) : Ty → Ty
  | .iint w => if w = 0 then .iint 32 else if w = PTR_WIDTH_MARK then .iint pw else .iint w
  | .uint w => if w = 0 then .iint 32 else if w = PTR_WIDTH_MARK then .uint pw else .uint w
  | .float w => if w = 0 then .float 32 else .float w
  | .notYetResolved | .unknown => .void
  | .file _ => .file 0
  | t => t

/-- the sign / mutable flag a simple type must show -/
def expectSign : Ty → Bool
  | .iint _ => true
  | .uint w => w = 0
  | .rawPtr m => m
  | _ => false

/-- the (canonical) simple type an id denotes, read back with the decoders of meta.capy -/
def tyOfId (id : Nat) : Ty :=
  let d := decDisc id
  let bits := decSize id * 8
  if d = Capy.void then .void
  else if d = Capy.int then (if decSign id then .iint bits else .uint bits)
  else if d = Capy.float then .float bits
  else if d = Capy.bool then .bool
  else if d = Capy.string then .string
  else if d = Capy.char then .char
  else if d = Capy.meta_type then .type
  else if d = Capy.any then .any
  else if d = Capy.file then .file 0
  else if d = Capy.raw_ptr then .rawPtr (decSign id)
  else if d = Capy.raw_slice then .rawSlice
  else if d = Capy.nil then .nil
  else .alwaysJumps

/-- the conjuncts of `simple_facts` as one `Bool`, so that `decide` checks a row of the table at once -/
def simpleCheck (pw : Nat) (t : Ty) : Bool :=
  match simpleIdOf pw t with
  | some id =>
    (tyOfId id == canon pw t) && decide (decDisc id < Capy.simpleLimit) && decide (id < 2 ^ 32)
      && (decSize id == Layout.size pw t) && (decAlign id == Layout.align pw t)
      && (decSign id == expectSign t)
  | none => false

theorem simpleCheck_int (pw : Nat) (hpw : Layout.okPw pw = true) (w : Nat) (hw : Layout.okIntWidth w = true) :
    simpleCheck pw (.iint w) = true ∧ simpleCheck pw (.uint w) = true := by
  rcases Layout.okPw_cases hpw with rfl | rfl | rfl <;>
    rcases Layout.okIntWidth_cases hw with rfl | rfl | rfl | rfl | rfl | rfl | rfl <;> decide

/-- The table of simple ids is finite (three pointer widths, the well-formed widths, no other
parameter that the id depends on): every row is checked by evaluation. -/
theorem simpleCheck_true (pw : Nat) (hpw : Layout.okPw pw = true) (t : Ty) (hwf : Layout.wf t = true)
    (hs : isSimple t = true) : simpleCheck pw t = true := by
  cases t <;> cases hs
  case iint w => exact (simpleCheck_int pw hpw w (by simpa [Layout.wf] using hwf)).1
  case uint w => exact (simpleCheck_int pw hpw w (by simpa [Layout.wf] using hwf)).2
  case float w =>
    rcases Layout.okPw_cases hpw with rfl | rfl | rfl <;>
      rcases Layout.okFloatWidth_cases (w := w) (by simpa [Layout.wf] using hwf) with rfl | rfl | rfl <;> decide
  case file n =>
    show simpleCheck pw (.file 0) = true
    rcases Layout.okPw_cases hpw with rfl | rfl | rfl <;> decide
  case rawPtr m => rcases Layout.okPw_cases hpw with rfl | rfl | rfl <;> cases m <;> decide
  all_goals rcases Layout.okPw_cases hpw with rfl | rfl | rfl <;> decide

theorem canon_compound (pw : Nat) (t : Ty) {k : Kind} (hk : kindOf t = some k) : canon pw t = t := by
  unfold canon; split <;> first | rfl | cases hk

theorem canon_kind (pw : Nat) (t : Ty) : kindOf (canon pw t) = kindOf t := by
  -- `canon` returns the same constructor, or `.void` / `.iint`: all of kind `none`
  unfold canon; split <;> (try split) <;> (try split) <;> rfl

theorem simpleIdOf_canon (pw : Nat) (hpw : Layout.okPw pw = true) (t : Ty) :
    simpleIdOf pw (canon pw t) = simpleIdOf pw t := by
  have hpw := Layout.okPw_cases hpw
  cases t
  case iint w | uint w =>
    by_cases h0 : w = 0
    · subst h0
      simp [canon, simpleIdOf, intBits, PTR_WIDTH_MARK]
    · by_cases hp : w = 255
      · subst hp
        rcases hpw with h | h | h <;> subst h <;> simp [canon, simpleIdOf, intBits, PTR_WIDTH_MARK]
      · simp [canon, h0, hp, PTR_WIDTH_MARK]
  case float w =>
    by_cases h0 : w = 0
    · subst h0
      simp [canon, simpleIdOf]
    · simp [canon, h0]
  all_goals rfl

/-- the compound discriminants are 16 … 25, in this order -/
theorem kind_disc_inj {k1 k2 : Kind} (h : k1.disc = k2.disc) : k1 = k2 := by
  have inv : ∀ k : Kind, [Kind.struct, .distinct, .array, .slice, .pointer, .function, .enum, .variant,
      .optional, .errorUnion][k.disc - 16]? = some k := by
    intro k; cases k <;> rfl
  have := inv k1
  rw [h, inv k2] at this
  exact (Option.some.inj this).symm

/-- `16` is `Capy.simpleLimit`, `63` is `Rust.discLimit`; literals, so that `omega` can use them. -/
theorem kind_disc_range (k : Kind) : 16 ≤ k.disc ∧ k.disc < 63 := by cases k <;> decide

theorem compound_entry {pw : Nat} {st : St} (hinv : Inv pw st) (hsmall : ∀ k, st.ctr k ≤ 2 ^ 26)
    {t : Ty} {id : Nat} {k : Kind} (hk : kindOf t = some k) (hmem : (t, id) ∈ st.ids) :
    ∃ n, decDisc id = k.disc ∧ decIndex id = n ∧
      (st.ids.filter fun e => kindOf e.1 == some k)[n]? = some (t, id) := by
  obtain ⟨l1, l2, hl, he⟩ := hinv.good.entry hmem
  -- the entries of kind `k` before it are numbered `0 …`, so it sits at the index its id carries
  have hrow : (st.ids.filter fun e => kindOf e.1 == some k)[countKind k l1]? = some (t, id) := by
    rw [hl, List.filter_append, List.filter_cons_of_pos (by simp [hk])]
    refine (List.getElem?_append_right (Nat.le_refl _)).trans ?_
    rw [Nat.sub_self]
    rfl
  -- why `≤` suffices in `hsmall`: an index is below the count
  have hn : countKind k l1 < 2 ^ 26 :=
    Nat.lt_of_lt_of_le (List.getElem?_eq_some_iff.mp hrow).1 (hinv.ctr k ▸ hsmall k :)
  simp only [entryOk, hk, Nat.zero_add] at he
  exact ⟨_, he ▸ (compound_dec _ hn).1, he ▸ (compound_dec _ hn).2, hrow⟩

theorem simple_entry {pw : Nat} {st : St} (hinv : Inv pw st) {t : Ty} {id : Nat}
    (hk : kindOf t = none) (hmem : (t, id) ∈ st.ids) : simpleIdOf pw t = some id ∧ isSimple t = true := by
  have h := GoodFrom.simple hk st.ids _ hinv.good hmem
  refine ⟨h, ?_⟩
  unfold isSimple
  split
  · cases h
  · rw [hk]
    rfl

theorem simple_facts {pw : Nat} (hpw : Layout.okPw pw = true) {t : Ty} (hwf : Layout.wf t = true)
    (hs : isSimple t = true) {id : Nat} (hid : simpleIdOf pw t = some id) :
    tyOfId id = canon pw t ∧ decDisc id < 16 ∧ id < 2 ^ 32 ∧ decSize id = Layout.size pw t ∧
      decAlign id = Layout.align pw t ∧ decSign id = expectSign t := by
  have h := simpleCheck_true pw hpw t hwf hs
  simp only [simpleCheck, hid, Bool.and_eq_true, beq_iff_eq, decide_eq_true_eq] at h
  obtain ⟨⟨⟨⟨⟨h1, h2⟩, h3⟩, h4⟩, h5⟩, h6⟩ := h
  exact ⟨h1, h2, h3, h4, h5, h6⟩

theorem metaSizeOf_compound (pw : Nat) (st : St) {id : Nat} {k : Kind} (hd : decDisc id = k.disc) :
    metaSizeOf pw st id = match k with
      | .slice => some ((pointerLayout pw).1 * 2)
      | .pointer | .function => some (pointerLayout pw).1
      | k => ((layoutTable pw st k)[decIndex id]?).map (·.1) := by
  simp only [metaSizeOf, hd]
  cases k <;> rfl

theorem metaAlignOf_compound (pw : Nat) (st : St) {id : Nat} {k : Kind} (hd : decDisc id = k.disc) :
    metaAlignOf pw st id = match k with
      | .slice | .pointer | .function => some (pointerLayout pw).2
      | k => ((layoutTable pw st k)[decIndex id]?).map (·.2) := by
  simp only [metaAlignOf, hd]
  cases k <;> rfl

theorem entry_simple_iff {pw : Nat} (hpw : Layout.okPw pw = true) {st : St} (hinv : Inv pw st)
    (hsmall : ∀ k, st.ctr k ≤ 2 ^ 26) {t : Ty} {id : Nat} (hmem : (t, id) ∈ st.ids)
    (hwf : Layout.wf t = true) : decDisc id < 16 ↔ kindOf t = none := by
  cases hk : kindOf t with
  | some k =>
    obtain ⟨_, hd, _⟩ := compound_entry hinv hsmall hk hmem
    have := (kind_disc_range k).1
    rw [hd]
    exact ⟨fun h => absurd h (by omega), nofun⟩
  | none =>
    obtain ⟨hid, hs⟩ := simple_entry hinv hk hmem
    exact ⟨fun _ => rfl, fun _ => (simple_facts hpw hwf hs hid).2.1⟩

end CapyV.TypeId
