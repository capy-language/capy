import CapyV.Proofs.Regex
/-!
# `lex` is total and its tokens tile the text (C22)

Every step of the chain `subLexGo`, `emit`, `nextTok`, `lexLoop` is stated through `Cover`, and
`lex_spec` turns the last into `Tiles`. The lemmas after `lex_spec` no longer speak of `lex`: they
read off a tiling what C22's cover clauses, the checker and the `Tokens` observers need.
-/
namespace CapyV.Lexer
open CapyV CapyV.Regex CapyV.Tokens

@[simp] theorem utf8Len_nil : utf8Len [] = 0 := rfl
@[simp] theorem utf8Len_cons (c : Char) (cs : List Char) :
    utf8Len (c :: cs) = c.utf8Size + utf8Len cs := by simp [utf8Len]
@[simp] theorem utf8Len_append (a b : List Char) : utf8Len (a ++ b) = utf8Len a + utf8Len b := by
  simp [utf8Len]

abbrev Piece := TokenKind × List Char

def flat (ps : List Piece) : List Char := ps.flatMap (·.2)

@[simp] theorem flat_nil : flat [] = [] := rfl
@[simp] theorem flat_cons (p : Piece) (ps : List Piece) : flat (p :: ps) = p.2 ++ flat ps := by
  simp [flat]
@[simp] theorem flat_append (a b : List Piece) : flat (a ++ b) = flat a ++ flat b := by
  simp [flat]

/-- starts of the pieces laid out from `off` (no final entry) -/
def startsOf (off : Nat) : List Piece → List Nat
  | [] => []
  | p :: ps => off :: startsOf (off + utf8Len p.2) ps

theorem startsOf_append (off : Nat) (a b : List Piece) :
    startsOf off (a ++ b) = startsOf off a ++ startsOf (off + utf8Len (flat a)) b := by
  induction a generalizing off with
  | nil => simp [startsOf]
  | cons p ps ih => simp [startsOf, ih, Nat.add_assoc]

theorem offsetsFrom_eq (off : Nat) (ps : List Piece) :
    offsetsFrom off ps = startsOf off ps ++ [off + utf8Len (flat ps)] := by
  induction ps generalizing off with
  | nil => simp [offsetsFrom, startsOf]
  | cons p ps ih => simp [offsetsFrom, startsOf, ih, Nat.add_assoc]

/-- `toks` tile `w` laid out from byte offset `off`: the pieces are the token texts -/
def Cover (w : List Char) (off : Nat) (toks : List Tok) : Prop :=
  ∃ pieces : List Piece, w = flat pieces ∧ toks.map (·.1) = pieces.map (·.1) ∧
    toks.map (·.2) = startsOf off pieces ∧ ∀ pc ∈ pieces, KindAgrees pc.1 pc.2

theorem Cover.nil (off : Nat) : Cover [] off [] := ⟨[], rfl, rfl, rfl, by simp⟩

theorem Cover.single {k : TokenKind} {w : List Char} (h : KindAgrees k w) (off : Nat) :
    Cover w off [(k, off)] := by
  refine ⟨[(k, w)], ?_, rfl, rfl, ?_⟩
  · simp
  · simpa using h

theorem Cover.append {u v : List Char} {off : Nat} {t₁ t₂ : List Tok} :
    Cover u off t₁ → Cover v (off + utf8Len u) t₂ → Cover (u ++ v) off (t₁ ++ t₂) := by
  rintro ⟨p₁, rfl, hk₁, hs₁, ha₁⟩ ⟨p₂, rfl, hk₂, hs₂, ha₂⟩
  refine ⟨p₁ ++ p₂, ?_, ?_, ?_, fun pc hpc => (List.mem_append.mp hpc).elim (ha₁ pc) (ha₂ pc)⟩
  · simp
  · simp [hk₁, hk₂]
  · simp [startsOf_append, hs₁, hs₂]

theorem Cover.tiles {s : List Char} {toks : List Tok} (h : Cover s 0 toks) :
    Tiles s ⟨toks.map (·.1), toks.map (·.2) ++ [utf8Len s]⟩ := by
  obtain ⟨pieces, rfl, hk, hs, ha⟩ := h
  exact ⟨pieces, rfl, hk, by simp [offsetsFrom_eq, hs], ha⟩

/-- `c` is at least as good a candidate as a match of length `m` with priority `pr` -/
def Beats (c : Cand) (m pr : Nat) : Prop := m < c.len ∨ (m = c.len ∧ pr ≤ c.prio)

/-- `none`: no rule matches a prefix. `some c`: `c` is the candidate of a rule, and no match of any
rule is longer, or as long with a higher priority; that the earlier rule wins a complete tie is not
recorded (nothing uses it). The priority clause becomes the "no more specific rule" clause of
`RuleAgrees` in `emit_cover`. -/
theorem pick_spec (rs : List (Nat × Pat)) (s : List Char) :
    match pick rs s with
    | none => ∀ dp ∈ rs, longest dp.2.regex s = none
    | some c => (∃ p, (c.disc, p) ∈ rs ∧ c.prio = p.prio ∧ longest p.regex s = some c.len) ∧
        ∀ dp ∈ rs, ∀ m, longest dp.2.regex s = some m → Beats c m dp.2.prio := by
  fun_induction pick rs s with
  | case1 => simp
  | case2 d p rest s hl ih =>
    split at ih
    · exact List.forall_mem_cons.mpr ⟨hl, ih⟩
    · obtain ⟨⟨q, hq⟩, hb⟩ := ih
      refine ⟨⟨q, .tail _ hq.1, hq.2⟩, List.forall_mem_cons.mpr ⟨fun m hm => ?_, hb⟩⟩
      simp [hl] at hm
  | case3 d p rest s n hl hn ih =>
    rw [hn] at ih
    refine ⟨⟨p, .head _, rfl, hl⟩, List.forall_mem_cons.mpr ⟨fun m hm => ?_, ?_⟩⟩
    · exact .inr ⟨Option.some.inj (hl ▸ hm).symm, Nat.le_refl _⟩
    · intro dp hdp m hm
      simp [ih dp hdp] at hm
  | case4 d p rest s n hl b hb hc ih =>
    rw [hb] at ih
    obtain ⟨⟨q, hq⟩, hbest⟩ := ih
    refine ⟨⟨q, .tail _ hq.1, hq.2⟩, List.forall_mem_cons.mpr ⟨fun m hm => ?_, hbest⟩⟩
    cases Option.some.inj (hl ▸ hm)
    simp only [Bool.or_eq_true, decide_eq_true_eq, Bool.and_eq_true, beq_iff_eq] at hc
    simp only [Beats]
    omega
  | case5 d p rest s n hl b hb hc ih =>
    rw [hb] at ih
    refine ⟨⟨p, .head _, rfl, hl⟩, List.forall_mem_cons.mpr ⟨fun m hm => ?_, ?_⟩⟩
    · exact .inr ⟨Option.some.inj (hl ▸ hm).symm, Nat.le_refl _⟩
    · intro dp hdp m hm
      simp only [Bool.or_eq_true, decide_eq_true_eq, Bool.and_eq_true, beq_iff_eq, not_or,
        not_and, Nat.not_lt] at hc
      have := ih.2 dp hdp m hm
      simp only [Beats] at this ⊢
      omega

/-- kinds that no rule produces directly -/
def specials : List TokenKind :=
  [.SingleQuote, .DoubleQuote, .Escape, .StringContents, .CommentLeader, .CommentContents, .Error]

theorem kindAgrees_of_not_special {k : TokenKind} {w : List Char} (hk : k ∉ specials)
    (h : RuleAgrees k w) : KindAgrees k w := by
  unfold KindAgrees
  split <;> first | exact h | exact absurd (by decide) hk

/-- The `__InternalChar` / `__InternalString` row of the table, `q([^q\\\n]|\\.)*q?` in
`tokenizer.txt`, by the code point of the quote (39 / 34): a hand copy that `rules_ok` compares with
the regenerated table. -/
def quotedRegex (q : Nat) : Regex :=
  .cat (.cls false [(q, q)])
    (.cat (.star (.alt (.cls true [(q, q), (92, 92), (10, 10)])
                       (.cat (.cls false [(92, 92)]) (.cls true [(10, 10)]))))
      (.opt (.cls false [(q, q)])))

/-- the `__InternalComment` row (`//.*` in `tokenizer.txt`), likewise -/
def commentRegex : Regex :=
  .cat (.cls false [(47, 47)]) (.cat (.cls false [(47, 47)]) (.star (.cls true [(10, 10)])))

theorem kind_names : TokenKind.all.map TokenKind.toString = tokenKindNames := rfl

/-- position `i` of the two generated enums: the same name, or the kind's name behind a `_` for a
kind that no rule carries (the sub-lexer kinds, which `transmute` never sees) -/
def nameOk (i : Nat) : Bool :=
  lexerKindNames[i]? == tokenKindNames[i]? ||
    (lexerKindNames[i]? == (tokenKindNames[i]?).map ("_" ++ ·) && !(rules.map (·.1)).contains i)

-- `+kernel` here and at `rules_ok`: the table is evaluated by the kernel alone (plain `decide`
-- evaluates it in the elaborator first, at twice the cost); it rests on no axiom
theorem names_ok : (List.range tokenKindNames.length).all nameOk = true := by decide +kernel

/-- the `debug_assert_eq!` of `transmute` holds for the discriminant of every rule -/
theorem rule_name {d : Nat} {p : Pat} {k : TokenKind} (h : (d, p) ∈ rules)
    (hk : TokenKind.ofNat? d = some k) : lexerKindNames[d]? = some k.toString := by
  have hd : d < tokenKindNames.length := by
    rw [← kind_names, List.length_map]
    exact (List.getElem?_eq_some_iff.mp hk).1
  have := List.all_eq_true.mp names_ok d (List.mem_range.mpr hd)
  simp only [nameOk, Bool.or_eq_true, Bool.and_eq_true, beq_iff_eq, Bool.not_eq_true',
    List.contains_eq_mem, decide_eq_false_iff_not] at this
  rcases this with e | ⟨-, hn⟩
  · rw [e, ← kind_names, List.getElem?_map, show TokenKind.all[d]? = some k from hk]
    rfl
  · exact absurd (List.mem_map_of_mem (f := (·.1)) h) hn

theorem transmute_eq_ok_iff {d : Nat} {k : TokenKind} :
    transmute d = .ok k ↔ TokenKind.ofNat? d = some k ∧ lexerKindNames[d]? = some k.toString := by
  unfold transmute
  cases TokenKind.ofNat? d with
  | none => simp
  | some k' =>
    simp only [Option.some.injEq]
    split
    · next h =>
      constructor
      · intro e
        cases e
        exact ⟨rfl, h⟩
      · rintro ⟨rfl, _⟩
        rfl
    · next h =>
      constructor
      · intro e
        cases e
      · rintro ⟨rfl, h'⟩
        exact absurd h' h

/-- per rule: not nullable; an `__Internal*` rule is the regex the sub-lexer proofs are about; any
other discriminant is that of a kind that is not a sub-lexer kind -/
def RuleOk (dp : Nat × Pat) : Prop :=
  nullable dp.2.regex = false ∧
  (dp.1 = discInternalChar → dp.2 = .rx (quotedRegex 39)) ∧
  (dp.1 = discInternalString → dp.2 = .rx (quotedRegex 34)) ∧
  (dp.1 = discInternalComment → dp.2 = .rx commentRegex) ∧
  (dp.1 ≠ discInternalChar → dp.1 ≠ discInternalString → dp.1 ≠ discInternalComment →
    ∃ k ∈ TokenKind.ofNat? dp.1, k ∉ specials)

instance : DecidablePred RuleOk := fun _ => by
  unfold RuleOk
  infer_instance

theorem rules_ok : ∀ dp ∈ rules, RuleOk dp := by decide +kernel

theorem transmute_rule {d : Nat} {p : Pat} {k : TokenKind} (h : (d, p) ∈ rules)
    (hk : TokenKind.ofNat? d = some k) : transmute d = .ok k :=
  transmute_eq_ok_iff.mpr ⟨hk, rule_name h hk⟩

@[simp] theorem mode_beq3 : (Mode.escape == Mode.escape) = true := by decide

/-- all scalar values are ordinary contents of a `q`-quoted literal -/
def OrdRun (q : Char) (w : List Char) : Prop := ∀ x ∈ w, x ≠ q ∧ x ≠ '\\' ∧ x ≠ '\n'

/-- the units a `q`-quoted literal is made of: an ordinary scalar value, an escape pair, a quote -/
inductive Item (q : Char) : List Char → Prop
  | ord {c} : c ≠ q → c ≠ '\\' → c ≠ '\n' → Item q [c]
  | esc {c} : c ≠ '\n' → Item q ['\\', c]
  | quote : Item q [q]

/-- From an item boundary (`mode` is not `escape` there): `T` covers the text `pre` read so far, and
in mode `inContents` its last token is open: it goes on covering when ordinary scalar values follow. -/
theorem subLexGo_cover {q : Char} {qk : TokenKind}
    (hq : (q = '\'' ∧ qk = .SingleQuote) ∨ (q = '"' ∧ qk = .DoubleQuote))
    (us : List (List Char)) (hus : ∀ u ∈ us, Item q u) (mode : Mode) (hm : mode ≠ .escape)
    (pre : List Char) (p : Nat) (T : List Tok)
    (hT : ∀ o, OrdRun q o → (mode = .startContents → o = []) → Cover (pre ++ o) p T) :
    Cover (pre ++ us.flatten) p (T ++ subLexGo q qk us.flatten mode (p + utf8Len pre)) := by
  have hqq : KindAgrees qk [q] := by
    rcases hq with ⟨rfl, rfl⟩ | ⟨rfl, rfl⟩ <;> rfl
  have hqb : q ≠ '\\' := by
    rcases hq with ⟨rfl, _⟩ | ⟨rfl, _⟩ <;> decide
  have hsc : ∀ c o, OrdRun q (c :: o) → KindAgrees .StringContents (c :: o) := by
    intro c o hw
    refine ⟨List.cons_ne_nil _ _, fun h => (hw _ h).2.1 rfl, fun h => (hw _ h).2.2 rfl, ?_⟩
    rcases hq with ⟨rfl, _⟩ | ⟨rfl, _⟩
    · exact .inr fun h => (hw _ h).1 rfl
    · exact .inl fun h => (hw _ h).1 rfl
  induction us generalizing mode pre p T with
  | nil => simpa [subLexGo] using hT [] nofun fun _ => rfl
  | cons u us ih =>
    obtain ⟨hu, hus'⟩ := List.forall_mem_cons.mp hus
    have hmode : mode = .inContents ∨ mode = .startContents := by cases mode <;> simp at hm ⊢
    have hpre : Cover pre p T := by simpa using hT [] nofun fun _ => rfl
    cases hu with
    | quote =>
      simpa [subLexGo, subStep, hmode] using hpre.append
        (ih hus' .startContents (by decide) [q] _ [(qk, _)] fun o _ ho => by
          cases ho rfl
          exact .single hqq _)
    | @esc c hc =>
      simpa [subLexGo, subStep, hmode, hqb.symm, Nat.add_assoc] using hpre.append
        (ih hus' .startContents (by decide) ['\\', c] _ [(.Escape, _)] fun o _ ho => by
          cases ho rfl
          exact .single (k := .Escape) ⟨c, rfl, hc⟩ _)
    | @ord c h1 h2 h3 =>
      have hord : ∀ o, OrdRun q o → OrdRun q (c :: o) :=
        fun o ho => List.forall_mem_cons.mpr ⟨⟨h1, h2, h3⟩, ho⟩
      rcases hmode with rfl | rfl
      · simpa [subLexGo, subStep, h1, h2, Nat.add_assoc] using
          ih hus' .inContents (by decide) (pre ++ [c]) p T fun o ho _ => by
            simpa using hT (c :: o) (hord o ho) nofun
      · simpa [subLexGo, subStep, h1, h2, Nat.add_assoc] using hpre.append
          (ih hus' .inContents (by decide) [c] _ [(.StringContents, _)] fun o ho _ =>
            .single (hsc c o (hord o ho)) _)

theorem quoted_cover {q : Char} {qk : TokenKind}
    (hq : (q = '\'' ∧ qk = .SingleQuote) ∨ (q = '"' ∧ qk = .DoubleQuote))
    {w : List Char} (h : Matches (quotedRegex q.toNat) w) (off : Nat) :
    Cover w off (subLexGo q qk w .inContents off) := by
  obtain ⟨_, v, rfl, hu, hv⟩ := matches_cat_iff.mp h
  cases (matches_single_iff.mp hu : _ = [q])
  obtain ⟨_, tail, rfl, hb, ht⟩ := matches_cat_iff.mp hv
  obtain ⟨us, rfl, hus⟩ := matches_star_iff.mp hb
  have hitems : ∀ u ∈ us, Item q u := by
    intro u hu
    rcases matches_alt_iff.mp (hus u hu) with h1 | h2
    · obtain ⟨x, rfl, hx⟩ := matches_cls_iff.mp h1
      have hx := (clsMatch_not_points (ns := [q.toNat, 92, 10])).mp hx
      exact .ord (fun e => hx (e ▸ .head _)) (fun e => hx (e ▸ .tail _ (.head _)))
        (fun e => hx (e ▸ .tail _ (.tail _ (.head _))))
    · obtain ⟨_, _, rfl, hx, hy⟩ := matches_cat_iff.mp h2
      cases (matches_single_iff.mp hx : _ = ['\\'])
      obtain ⟨y, rfl, hy'⟩ := matches_cls_iff.mp hy
      exact .esc fun e => (clsMatch_not_points (ns := [10])).mp hy' (e ▸ .head _)
  obtain ⟨ts, rfl, hts⟩ : ∃ ts : List (List Char), tail = ts.flatten ∧ ∀ u ∈ ts, Item q u := by
    rcases matches_opt_iff.mp ht with rfl | ht
    · exact ⟨[], rfl, by simp⟩
    · cases (matches_single_iff.mp ht : _ = [q])
      exact ⟨[[q]], by simp, by simpa using Item.quote⟩
  -- `lexChar` / `lexString` start in `inContents`, but read the opening quote as in `startContents`,
  -- where no token is open and the empty token list covers the empty prefix
  have hmode : ∀ rest, subLexGo q qk (q :: rest) .inContents off =
      subLexGo q qk (q :: rest) .startContents off := fun rest => by simp [subLexGo, subStep]
  have hall : ∀ u ∈ [q] :: (us ++ ts), Item q u := by
    simpa [or_imp, forall_and] using ⟨Item.quote, hitems, hts⟩
  have := subLexGo_cover hq ([q] :: (us ++ ts)) hall .startContents (by decide) [] off []
    fun o _ ho => by
      cases ho rfl
      exact .nil off
  simpa [hmode] using this

theorem comment_cover {w : List Char} (h : Matches commentRegex w) (off : Nat) :
    Cover w off (lexComment off (utf8Len w)) := by
  obtain ⟨_, _, rfl, h₁, h'⟩ := matches_cat_iff.mp h
  obtain ⟨_, _, rfl, h₂, hr⟩ := matches_cat_iff.mp h'
  cases (matches_single_iff.mp h₁ : _ = ['/'])
  cases (matches_single_iff.mp h₂ : _ = ['/'])
  obtain ⟨us, rfl, hus⟩ := matches_star_iff.mp hr
  have hC : KindAgrees .CommentContents us.flatten := fun hx => by
    obtain ⟨u, hu, hxu⟩ := List.mem_flatten.mp hx
    obtain ⟨c, rfl, hc⟩ := matches_cls_iff.mp (hus u hu)
    cases List.mem_singleton.mp hxu
    exact (clsMatch_not_points (ns := [10])).mp hc (.head _)
  have hL : KindAgrees .CommentLeader ['/', '/'] := rfl
  have h1 : Char.utf8Size '/' = 1 := by decide
  simpa [lexComment, h1, show 1 < 1 + (1 + utf8Len us.flatten) by omega] using
    (Cover.single hL off).append (Cover.single hC _)

theorem emit_cover {d : Nat} {p : Pat} (hmem : (d, p) ∈ rules) {w : List Char} (hm : PatMatches p w)
    (hbest : ∀ d' p', (d', p') ∈ rules → PatMatches p' w → p'.prio ≤ p.prio) (off : Nat) :
    ∃ toks, emit (some d) w off = .ok toks ∧ Cover w off toks := by
  obtain ⟨-, rC, rS, rM, rK⟩ := rules_ok _ hmem
  by_cases hC : d = discInternalChar
  · cases rC hC
    exact ⟨lexChar w off, if_pos hC, quoted_cover (.inl ⟨rfl, rfl⟩) hm off⟩
  by_cases hS : d = discInternalString
  · cases rS hS
    exact ⟨lexString w off, (if_neg hC).trans (if_pos hS), quoted_cover (.inr ⟨rfl, rfl⟩) hm off⟩
  by_cases hM : d = discInternalComment
  · cases rM hM
    exact ⟨_, (if_neg hC).trans ((if_neg hS).trans (if_pos hM)), comment_cover hm off⟩
  obtain ⟨k, hk, hkn⟩ := rK hC hS hM
  exact ⟨[(k, off)],
    (if_neg hC).trans ((if_neg hS).trans ((if_neg hM).trans (by rw [transmute_rule hmem hk]))),
    .single (kindAgrees_of_not_special hkn ⟨d, p, hmem, hk, hm, hbest⟩) off⟩

theorem nextTok_cover {s : List Char} (hs : s ≠ []) {kind : Option Nat} {n : Nat} (off : Nat)
    (h : nextTok s = (kind, n)) :
    0 < n ∧ n ≤ s.length ∧ ∃ toks, emit kind (s.take n) off = .ok toks ∧ Cover (s.take n) off toks := by
  unfold nextTok at h
  have hp := pick_spec rules s
  split at h
  · next c hpick =>
    cases h
    rw [hpick] at hp
    obtain ⟨⟨p, hmem, hprio, hl⟩, hbest⟩ := hp
    obtain ⟨hn, hm⟩ := longest_sound hl
    refine ⟨longest_pos (rules_ok _ hmem).1 hl, hn, emit_cover hmem hm ?_ off⟩
    intro d' p' hmem' hm'
    obtain ⟨m, hlm, hle⟩ := longest_max hn hm'
    have := hbest _ hmem' m hlm
    simp only [Beats] at this
    omega
  · next hpick =>
    cases h
    rw [hpick] at hp
    obtain ⟨c, cs, rfl⟩ := List.exists_cons_of_ne_nil hs
    have hE : KindAgrees .Error [c] := by
      refine ⟨by simp, fun d p hmem hm => ?_⟩
      obtain ⟨m, hlm, _⟩ :=
        longest_max (s := c :: cs) (k := 1) (by simp) (by simpa [PatMatches] using hm)
      simp [hp _ hmem] at hlm
    exact ⟨Nat.one_pos, by simp, _, rfl, .single hE off⟩

theorem lexLoop_cover (fuel : Nat) (s : List Char) (off : Nat) (hf : s.length < fuel) :
    ∃ toks, lexLoop fuel s off = .ok toks ∧ Cover s off toks := by
  induction fuel generalizing s off with
  | zero => omega
  | succ fuel ih =>
    cases s with
    | nil => exact ⟨[], rfl, .nil off⟩
    | cons c cs =>
      rcases hnt : nextTok (c :: cs) with ⟨kind, n⟩
      obtain ⟨hpos, hn, toks₁, hemit, hc₁⟩ := nextTok_cover (List.cons_ne_nil c cs) off hnt
      -- the fuel is paid by `0 < n`: no rule of the table is nullable (`rules_ok`)
      have hlt : ((c :: cs).drop n).length < fuel := by
        simp only [List.length_drop]
        omega
      obtain ⟨toks₂, hloop, hc₂⟩ :=
        ih ((c :: cs).drop n) (off + utf8Len ((c :: cs).take n)) hlt
      refine ⟨toks₁ ++ toks₂, ?_, List.take_append_drop n (c :: cs) ▸ hc₁.append hc₂⟩
      simp [lexLoop, hnt, Nat.ne_of_gt hpos, hemit, hloop]

theorem lex_spec (s : List Char) : ∃ t, lex s = .ok t ∧ Tiles s t := by
  obtain ⟨toks, hloop, hc⟩ := lexLoop_cover (s.length + 1) s 0 (Nat.lt_succ_self _)
  exact ⟨_, by simp [lex, hloop, Tokens.new], hc.tiles⟩

theorem offsetsFrom_length (off : Nat) (ps : List Piece) :
    (offsetsFrom off ps).length = ps.length + 1 := by
  induction ps generalizing off with
  | nil => simp [offsetsFrom]
  | cons p ps ih => simp [offsetsFrom, ih]

theorem offsetsFrom_getElem? (off : Nat) (ps : List Piece) (i : Nat) (h : i ≤ ps.length) :
    (offsetsFrom off ps)[i]? = some (off + utf8Len (flat (ps.take i))) := by
  induction ps generalizing off i with
  | nil =>
    cases Nat.le_zero.mp h
    simp [offsetsFrom]
  | cons p ps ih =>
    cases i with
    | zero => simp [offsetsFrom]
    | succ i => simp [offsetsFrom, ih _ i (Nat.le_of_succ_le_succ h), Nat.add_assoc]

theorem flat_take_prefix (ps : List Piece) (i : Nat) :
    (flat ps).take (flat (ps.take i)).length = flat (ps.take i) := by
  conv =>
    lhs
    arg 2
    rw [← List.take_append_drop i ps, flat_append]
  exact List.take_left

theorem offsetsFrom_boundary (off : Nat) (ps : List Piece) : ∀ b ∈ offsetsFrom off ps,
    ∃ k, k ≤ (flat ps).length ∧ b = off + utf8Len ((flat ps).take k) := by
  intro b hb
  obtain ⟨i, hi⟩ := List.mem_iff_getElem?.mp hb
  have hle := (List.getElem?_eq_some_iff.mp hi).1
  rw [offsetsFrom_length] at hle
  rw [offsetsFrom_getElem? off ps i (Nat.le_of_lt_succ hle)] at hi
  cases hi
  refine ⟨(flat (ps.take i)).length, ?_, by rw [flat_take_prefix]⟩
  have := congrArg List.length (flat_take_prefix ps i)
  rw [List.length_take] at this
  omega

theorem offsetsFrom_ge (off : Nat) (ps : List Piece) : ∀ b ∈ offsetsFrom off ps, off ≤ b := by
  intro b hb
  obtain ⟨_, _, rfl⟩ := offsetsFrom_boundary off ps b hb
  exact Nat.le_add_right _ _

theorem offsetsFrom_sorted (off : Nat) (ps : List Piece) :
    (offsetsFrom off ps).Pairwise (· ≤ ·) := by
  induction ps generalizing off with
  | nil => simp [offsetsFrom]
  | cons p ps ih =>
    exact List.pairwise_cons.mpr
      ⟨fun b hb => Nat.le_trans (Nat.le_add_right _ _) (offsetsFrom_ge _ _ b hb), ih _⟩

theorem offsetsFrom_head (off : Nat) (ps : List Piece) : (offsetsFrom off ps).head? = some off := by
  cases ps <;> simp [offsetsFrom]

theorem offsetsFrom_last (off : Nat) (ps : List Piece) :
    (offsetsFrom off ps).getLast? = some (off + utf8Len (flat ps)) := by
  rw [offsetsFrom_eq]
  simp

theorem takeBytes_spec {s : List Char} {n : Nat} {a b : List Char}
    (h : takeBytes s n = some (a, b)) : s = a ++ b ∧ utf8Len a = n := by
  fun_induction takeBytes s n generalizing a b with
  | case1 =>
    cases h
    exact ⟨rfl, rfl⟩
  | case3 c cs n hle a' b' hrec ih =>
    cases h
    obtain ⟨rfl, h2⟩ := ih hrec
    refine ⟨rfl, ?_⟩
    rw [utf8Len_cons, h2]
    omega
  | case2 | case4 | case5 => cases h

theorem patMatch_iff {p : Pat} {w : List Char} : patMatch p w = true ↔ PatMatches p w := by
  unfold patMatch PatMatches
  exact rmatch_iff

theorem ruleAgreesB_sound {k : TokenKind} {w : List Char} (h : ruleAgreesB k w = true) :
    RuleAgrees k w := by
  unfold ruleAgreesB at h
  obtain ⟨dp, hmem, hc⟩ := List.any_eq_true.mp h
  simp only [Bool.and_eq_true, beq_iff_eq] at hc
  obtain ⟨⟨hk, hm⟩, hall⟩ := hc
  refine ⟨dp.1, dp.2, hmem, hk, patMatch_iff.mp hm, ?_⟩
  intro d' p' hmem' hm'
  have := List.all_eq_true.mp hall _ hmem'
  simp only [Bool.or_eq_true, Bool.not_eq_true', decide_eq_true_eq] at this
  rcases this with h1 | h1
  · rw [patMatch_iff.mpr hm'] at h1
    cases h1
  · exact h1

theorem kindOk_sound {k : TokenKind} {w : List Char} (h : kindOk k w = true) : KindAgrees k w := by
  unfold kindOk at h
  -- the arms of `kindOk`, in its order: SingleQuote, DoubleQuote, Escape, StringContents,
  -- CommentLeader, CommentContents, Error, then every kind that a rule carries
  split at h
  · simpa [KindAgrees] using h
  · simpa [KindAgrees] using h
  · split at h
    · next a c =>
      simp only [Bool.and_eq_true, beq_iff_eq, bne_iff_ne, ne_eq] at h
      exact ⟨c, by rw [h.1], h.2⟩
    · cases h
  · simp only [Bool.and_eq_true, Bool.not_eq_true', Bool.or_eq_true,
      List.isEmpty_eq_false_iff, List.contains_eq_mem, decide_eq_false_iff_not] at h
    obtain ⟨⟨⟨h1, h2⟩, h3⟩, h4⟩ := h
    exact ⟨h1, h2, h3, h4⟩
  · simpa [KindAgrees] using h
  · simpa [KindAgrees] using h
  · simp only [Bool.and_eq_true, Bool.not_eq_true', List.isEmpty_eq_false_iff,
      List.all_eq_true] at h
    refine ⟨h.1, fun d p hmem hm => ?_⟩
    have := h.2 _ hmem
    rw [patMatch_iff.mpr hm] at this
    cases this
  · next h1 h2 h3 h4 h5 h6 h7 =>
    refine kindAgrees_of_not_special ?_ (ruleAgreesB_sound h)
    simpa [specials] using ⟨h1, h2, h3, h4, h5, h6, h7⟩

theorem checkFrom_sound {s : List Char} {cur i : Nat} {ks : List TokenKind} {es : List Nat}
    (h : checkFrom s cur i ks es = .ok) :
    ∃ pieces : List Piece, s = flat pieces ∧ ks = pieces.map (·.1) ∧
      cur :: es = offsetsFrom cur pieces ∧ ∀ p ∈ pieces, KindAgrees p.1 p.2 := by
  fun_induction checkFrom s cur i ks es with
  | case1 s _ i he =>
    refine ⟨[], ?_, rfl, rfl, ?_⟩
    · simpa using he
    · simp
  | case5 s cur i k ks e es hle piece rest htb hk ih =>
    obtain ⟨hsplit, hlen⟩ := takeBytes_spec htb
    obtain ⟨pieces, h1, h2, h3, h4⟩ := ih h
    refine ⟨(k, piece) :: pieces, ?_, ?_, ?_, List.forall_mem_cons.mpr ⟨kindOk_sound hk, h4⟩⟩
    · simp [hsplit, h1]
    · simp [h2]
    · rw [offsetsFrom, show cur + utf8Len piece = e by omega, ← h3]
  | case2 | case3 | case4 | case6 | case7 => cases h

theorem zipEq_spec {α β} (as : List α) (bs : List β) :
    Tokens.zipEq as bs = if as.length = bs.length then .ok (as.zip bs) else .error .zipEq := by
  induction as generalizing bs with
  | nil => cases bs <;> rfl
  | cons a as ih =>
    cases bs with
    | nil => rfl
    | cons b bs =>
      simp only [Tokens.zipEq, ih bs, List.length_cons, Nat.add_right_cancel_iff]
      by_cases h : as.length = bs.length <;> simp [h]

theorem zipEqTake_le {α β} : ∀ (k : Nat) (as : List α) (bs : List β),
    k ≤ as.length → k ≤ bs.length → Tokens.zipEqTake k as bs = .ok ((as.zip bs).take k) := by
  intro k
  induction k with
  | zero =>
    intro as bs _ _
    simp [Tokens.zipEqTake]
  | succ k ih =>
    intro as bs ha hb
    cases as with
    | nil => simp at ha
    | cons a as =>
      cases bs with
      | nil => simp at hb
      | cons b bs =>
        have := ih as bs (by simpa using ha) (by simpa using hb)
        simp [Tokens.zipEqTake, this]

theorem mapRanges_ok : ∀ (l : List ((TokenKind × Nat) × Nat)), (∀ x ∈ l, x.1.2 ≤ x.2) →
    Tokens.mapRanges l = .ok (l.map fun x => (x.1.1, x.1.2, x.2)) := by
  intro l
  induction l with
  | nil =>
    intro _
    rfl
  | cons x l ih =>
    intro h
    obtain ⟨⟨k, s⟩, e⟩ := x
    have hx : s ≤ e := h ((k, s), e) List.mem_cons_self
    have := ih fun y hy => h y (List.mem_cons_of_mem _ hy)
    simp [Tokens.mapRanges, Tokens.mkRange, hx, this]

theorem sorted_zip_drop : ∀ (l : List Nat), l.Pairwise (· ≤ ·) →
    ∀ x ∈ l.zip (l.drop 1), x.1 ≤ x.2 := by
  intro l hp x hx
  obtain ⟨i, hi, rfl⟩ := List.mem_iff_getElem.mp hx
  simp only [List.length_zip, List.length_drop] at hi
  simp only [List.getElem_zip, List.getElem_drop]
  exact List.pairwise_iff_getElem.mp hp _ _ _ _ (by omega)

theorem zip_take_left {α β} : ∀ (l : List α) (l' : List β), l.zip (l'.take l.length) = l.zip l' := by
  intro l
  induction l with
  | nil =>
    intro l'
    simp
  | cons a l ih =>
    intro l'
    cases l' with
    | nil => simp
    | cons b l' => simp [ih]

theorem mem_zip_of_mem_zip_zip {α β γ} {l₁ : List α} {l₂ : List β} {l₃ : List γ} {x : (α × β) × γ}
    (hx : x ∈ (l₁.zip l₂).zip l₃) : (x.1.2, x.2) ∈ l₂.zip l₃ := by
  induction l₁ generalizing l₂ l₃ with
  | nil => cases hx
  | cons a l₁ ih =>
    cases l₂ with
    | nil => cases hx
    | cons b l₂ =>
      cases l₃ with
      | nil => cases hx
      | cons c l₃ =>
        rcases List.mem_cons.mp hx with rfl | hx
        · exact .head _
        · exact .tail _ (ih hx)

theorem sorted_zip_zip_drop (st : List Nat) (ks : List TokenKind) (hp : st.Pairwise (· ≤ ·)) :
    ∀ x ∈ (ks.zip st).zip (st.drop 1), x.1.2 ≤ x.2 :=
  fun x hx => sorted_zip_drop st hp (x.1.2, x.2) (mem_zip_of_mem_zip_zip hx)

def isErr {α} (e : Except Fault α) (f : Fault) : Bool :=
  match e with
  | .ok _ => false
  | .error g => decide (g = f)

theorem isErr_iff {α} {e : Except Fault α} {f : Fault} : isErr e f = true ↔ e = .error f := by
  cases e <;> simp [isErr]

end CapyV.Lexer

-- so that test vectors `lex s = .ok t` are decided as they stand
deriving instance DecidableEq for Except

