import CapyV.Spec.Mutability
/-!
C14: `Fits` relates the answer of `get_mutability` to the verdict of the place semantics;
`fixed_exact` proves it of the fixed function for every well-typed target, by induction on the
target, with `auto_exact` for the auto-dereferencing arms (`e[i]`, `e.field`).
-/
namespace CapyV.Mutability

/-- the walk's answer fits the verdict of the place: accepted where the place is writable,
refused where it is read-only, free where the property says nothing -/
abbrev Fits (v : Verdict) (m : Mut) : Prop :=
  (v = .writable → m = .mutable) ∧ (v = .readonly → m ≠ .mutable)

theorem Fits.unspecified (m : Mut) : Fits .unspecified m := ⟨nofun, nofun⟩

theorem fits_hop {m : Bool} {x : Mut} :
    Fits (if m then .writable else .readonly) x ↔ (x = .mutable ↔ m = true) := by
  cases m <;> simp [Fits]

theorem tyOf_of_typeOf {e : Expr} {t : Ty} (h : typeOf e = some t) : tyOf e = t := by
  simp [tyOf, h]

theorem byType_noderef (fixed : Bool) (ty : Ty) (m : Mut) : byType fixed ty false m = m := by
  cases fixed <;> rfl

theorem gm_is_byType (fixed : Bool) (e : Expr) (a d : Bool) :
    ∃ m, getMutability fixed e a d = byType fixed (tyOf e) d m := by
  cases e <;> exact ⟨_, rfl⟩

theorem fixed_deref_iff (e : Expr) (a : Bool) {m : Bool} {t : Ty} (h : tyOf e = .ptr m t) :
    getMutability true e a true = .mutable ↔ m = true := by
  obtain ⟨x, hx⟩ := gm_is_byType true e a true
  rw [hx, h]
  cases m <;> cases x <;> simp [byType, Ty.asPointer]

theorem verdict_hop (p : Place) (m : Bool) :
    (p.hop m).verdict = if m then .writable else .readonly := by
  cases m <;> simp [Place.hop, Place.verdict]

theorem verdict_hops (p : Place) (init : List Bool) (m : Bool) :
    ((init ++ [m]).foldl Place.hop p).verdict = if m then .writable else .readonly := by
  rw [List.foldl_append]
  exact verdict_hop _ m

theorem autoArm_some_iff (l : Bool) (x y : Mut) : autoArm (some l) x y = .mutable ↔ l = true := by
  cases l <;> cases x <;> simp [autoArm]

theorem levels_eq_nil_of_not_ptr {t : Ty} (h : ∀ m u, t ≠ .ptr m u) :
    t.levels = [] ∧ t.isPointer = false ∧ t.innermostAutoDeref = none := by
  cases t <;> simp_all [Ty.levels, Ty.isPointer, Ty.innermostAutoDeref]

/-- `e[i]` / `e.field` for `e : ta` (every pointer level followed): the verdict of the place and
the answer of the two arms agree, given that they agree on `e` itself -/
theorem auto_exact (prev : Expr) (a : Bool) (ta : Ty) (hty : tyOf prev = ta)
    (ih : (verdict prev = .writable → getMutability true prev a false = .mutable) ∧
          (verdict prev = .readonly → getMutability true prev a false ≠ .mutable)) :
    ((ta.levels.foldl Place.hop (place prev)).verdict = .writable →
        autoArm ta.innermostAutoDeref (getMutability true prev a true) (getMutability true prev a (false || ta.isPointer)) = .mutable) ∧
    ((ta.levels.foldl Place.hop (place prev)).verdict = .readonly →
        autoArm ta.innermostAutoDeref (getMutability true prev a true) (getMutability true prev a (false || ta.isPointer)) ≠ .mutable) := by
  show Fits _ _  -- the statement is `Fits` unfolded, in `ih` and in the conclusion
  by_cases hp : ∃ m t, ta = .ptr m t
  · obtain ⟨m, t, rfl⟩ := hp
    rcases List.eq_nil_or_concat t.levels with hl | ⟨init, last, hl⟩
    · -- one level: the ordinary walk under `deref`
      rw [show (Ty.ptr m t).levels = [] ++ [m] by simp [Ty.levels, hl], verdict_hops, fits_hop]
      simpa [Ty.innermostAutoDeref, Ty.levels, hl, autoArm, Ty.isPointer] using fixed_deref_iff prev a hty
    · -- two or more levels: the innermost decides
      have hls : (Ty.ptr m t).levels = (m :: init) ++ [last] := by simp [Ty.levels, hl]
      have : (Ty.ptr m t).innermostAutoDeref = some last := by
        simp only [Ty.innermostAutoDeref, hls, List.getLast?_concat]
        simp
      rw [hls, verdict_hops, fits_hop, this, autoArm_some_iff]
  · obtain ⟨h1, h2, h3⟩ := levels_eq_nil_of_not_ptr (t := ta) fun m u e => hp ⟨m, u, e⟩
    simpa [h1, h2, h3, autoArm, verdict] using ih

theorem place_member (prev : Expr) (ty : Ty) (h : tyOf prev ≠ .file) :
    place (.member prev ty) = (tyOf prev).levels.foldl Place.hop (place prev) := by
  simp only [place]  -- the side condition of the second arm's equation is discharged by `h`

theorem gm_member (prev : Expr) (ty : Ty) (a : Bool) (h : tyOf prev ≠ .file) :
    getMutability true (.member prev ty) a false =
      autoArm (tyOf prev).innermostAutoDeref (getMutability true prev a true)
        (getMutability true prev a (false || (tyOf prev).isPointer)) := by
  simp only [getMutability, byType_noderef]
  split <;> simp_all

theorem fixed_exact (e : Expr) (a : Bool) :
    ∀ t, typeOf e = some t → Fits (verdict e) (getMutability true e a false) := by
  induction e with
  | missing | arrayLit _ | structLit _ | ref _ _ _ | blockTail _ _ | call _ | cast _ | other _ =>
    exact fun _ _ => .unspecified _  -- values, not places
  | loc m ty init _ | locNoInit m ty =>
    intro t _
    cases m <;> simp [Fits, verdict, place, Place.verdict, getMutability, byType_noderef]
  | global ty => exact fun _ _ => ⟨nofun, fun _ => nofun⟩
  | param ty =>
    intro t _
    refine ⟨nofun, fun _ => ?_⟩
    simp only [getMutability, byType_noderef, paramArm]
    cases ty.asPointer with
    | none => simp
    | some p =>
      obtain ⟨m, t'⟩ := p
      cases a <;> cases m <;> simp
  | deref p _ =>
    intro t ht
    simp only [typeOf] at ht
    split at ht
    · rename_i m' t' hp
      have hty := tyOf_of_typeOf hp
      simpa only [verdict, place, hty, verdict_hop, getMutability, byType_noderef, fits_hop]
        using fixed_deref_iff p a hty
    · cases ht
  | index arr ih =>
    intro t ht
    cases hp : typeOf arr with
    | none => simp [typeOf, hp] at ht
    | some ta =>
      simpa only [verdict, place, getMutability, byType_noderef, if_true] using
        auto_exact arr a _ rfl (ih _ hp)
  | member prev ty ih =>
    intro t ht
    cases hp : typeOf prev with
    | none => simp [typeOf, hp] at ht
    | some ta =>
      by_cases hf : tyOf prev = .file
      · simp [Fits, verdict, place, hf, Place.verdict, getMutability, byType_noderef]
      · rw [verdict, place_member _ _ hf, gm_member _ _ _ hf]
        exact auto_exact prev a _ rfl (ih _ hp)
  | paren e ih => exact ih
  | unwrap e ih =>
    intro t ht
    simp only [typeOf] at ht
    split at ht
    · exact ih _ ‹_›
    · cases ht

theorem rejected_iff (e : Expr) (a : Bool) (t : Ty) (wt : typeOf e = some t)
    (spec : verdict e ≠ .unspecified) :
    (getMutability true e a false).rejected = true ↔ verdict e = .readonly := by
  have hx := fixed_exact e a t wt
  cases hv : verdict e
  · simp [hx.1 hv, Mut.rejected]
  · have := hx.2 hv
    cases hm : getMutability true e a false <;> simp_all [Mut.rejected]
  · exact absurd hv spec

theorem Place.surelyWritable_writable (p : Place) (h : p.surelyWritable = true) :
    p.verdict = .writable := by
  obtain ⟨root, hops⟩ := p
  unfold Place.surelyWritable at h
  unfold Place.verdict
  rcases List.eq_nil_or_concat hops with rfl | ⟨init, last, rfl⟩
  · cases root <;> simp_all
  · simp only [Bool.and_eq_true, List.all_eq_true] at h
    have : last = true := by simpa using h.1 last (by simp)
    subst this
    simp

end CapyV.Mutability
