import CapyV.Model.LineIndex
/-! Lemmas for C25: the table of a text splits at any offset (`lineStarts_take`), and the last
entry of a table is where the last line starts (`SplitsAtLastLine.last`). -/
namespace CapyV.LineIndex

theorem lineStartsFrom_bounds (pos : Nat) (t : List Nat) :
    ∀ x ∈ lineStartsFrom pos t, pos < x ∧ x ≤ pos + t.length := by
  induction t generalizing pos with
  | nil => simp [lineStartsFrom]
  | cons b bs ih =>
    intro x hx
    have := ih (pos + 1) x
    simp only [List.length_cons]
    unfold lineStartsFrom at hx
    split at hx
    · rcases List.mem_cons.mp hx with rfl | hx
      · omega
      · have := this hx; omega
    · have := this hx; omega

theorem lineStartsFrom_sorted (pos : Nat) (t : List Nat) :
    (lineStartsFrom pos t).Pairwise (· < ·) := by
  induction t generalizing pos with
  | nil => simp [lineStartsFrom]
  | cons b bs ih =>
    unfold lineStartsFrom
    split
    · refine List.pairwise_cons.mpr ⟨?_, ih _⟩
      exact fun x hx => (lineStartsFrom_bounds _ _ x hx).1
    · exact ih _

/-- The precondition of `partition_point`: the table is strictly increasing, hence
partitioned by `· ≤ off` for every `off`. -/
theorem lineStarts_sorted (t : List Nat) : (lineStarts t).Pairwise (· < ·) := by
  unfold lineStarts
  exact List.pairwise_cons.mpr
    ⟨fun x hx => (lineStartsFrom_bounds _ _ x hx).1, lineStartsFrom_sorted _ _⟩

theorem takeWhile_nil_of_gt (off : Nat) (l : List Nat) (h : ∀ x ∈ l, off < x) :
    l.takeWhile (fun x => decide (x ≤ off)) = [] := by
  cases l with
  | nil => rfl
  | cons a as =>
    have := h a (by simp)
    have hd : decide (a ≤ off) = false := by simp; omega
    simp [List.takeWhile, hd]

theorem lineStartsFrom_append (pos : Nat) (a b : List Nat) :
    lineStartsFrom pos (a ++ b) = lineStartsFrom pos a ++ lineStartsFrom (pos + a.length) b := by
  induction a generalizing pos with
  | nil => rfl
  | cons x a ih =>
    have : pos + (a.length + 1) = pos + 1 + a.length := by omega
    by_cases hx : x = NL <;> simp [lineStartsFrom, hx, ih, this]

theorem length_lineStartsFrom (pos : Nat) (t : List Nat) :
    (lineStartsFrom pos t).length = t.count NL := by
  induction t generalizing pos with
  | nil => rfl
  | cons b bs ih =>
    by_cases hb : b = NL <;> simp [lineStartsFrom, hb, ih]

/-- The table of `t` is the table of the text before `off`, whose entries are all `≤ off`,
followed by entries `> off`. -/
theorem lineStarts_take (t : List Nat) (off : Nat) (h : off ≤ t.length) :
    lineStarts t = lineStarts (t.take off) ++ lineStartsFrom off (t.drop off) := by
  have := lineStartsFrom_append 0 (t.take off) (t.drop off)
  rw [List.take_append_drop, List.length_take, Nat.min_eq_left h, Nat.zero_add] at this
  simp [lineStarts, this]

theorem partitionPoint_lineStarts (t : List Nat) (off : Nat) (h : off ≤ t.length) :
    partitionPoint (lineStarts t) off = (t.take off).count NL + 1 := by
  unfold partitionPoint
  rw [lineStarts_take t off h, List.takeWhile_append_of_pos,
    takeWhile_nil_of_gt off _ fun x hx => (lineStartsFrom_bounds off _ x hx).1]
  · simp [lineStarts, length_lineStartsFrom]
  · intro x hx
    rcases List.mem_cons.mp hx with rfl | hx
    · simp
    · have := (lineStartsFrom_bounds 0 _ x hx).2
      simp only [List.length_take, Nat.min_eq_left h] at this
      simpa using this

/-- Declarative description of "the line containing the end of `l`": `l = pre ++ line`
where `line` has no newline and `pre` is empty or ends in a newline. -/
def SplitsAtLastLine (l pre line : List Nat) : Prop :=
  l = pre ++ line ∧ NL ∉ line ∧ (pre = [] ∨ pre.getLast? = some NL)

theorem SplitsAtLastLine.last {l pre line : List Nat} (h : SplitsAtLastLine l pre line) :
    (lineStarts l).getLast? = some pre.length := by
  obtain ⟨rfl, hno, hpre⟩ := h
  have hline : lineStartsFrom (0 + pre.length) line = [] :=
    List.eq_nil_of_length_eq_zero (by rw [length_lineStartsFrom, List.count_eq_zero.mpr hno])
  rw [lineStarts, lineStartsFrom_append, hline, List.append_nil]
  rcases hpre with rfl | hpre
  · rfl
  · obtain ⟨p, rfl⟩ := List.getLast?_eq_some_iff.mp hpre
    simp only [lineStartsFrom_append, lineStartsFrom, if_pos, Nat.zero_add, List.length_append,
      List.length_singleton]
    exact List.getLast?_concat (l := 0 :: lineStartsFrom 0 p)

/-- by induction from the right: a newline at the end opens a new, empty line; any other
byte extends the last one -/
theorem exists_split (l : List Nat) : ∃ pre line, SplitsAtLastLine l pre line := by
  generalize hr : l.reverse = r
  induction r generalizing l with
  | nil =>
    obtain rfl : l = [] := by simpa using hr
    exact ⟨[], [], rfl, by simp, .inl rfl⟩
  | cons b r ih =>
    obtain rfl : l = r.reverse ++ [b] := by rw [← List.reverse_reverse l, hr]; simp
    obtain ⟨pre, line, hl, hno, hpre⟩ := ih r.reverse (by simp)
    by_cases hb : b = NL
    · exact ⟨r.reverse ++ [b], [], by simp, by simp, .inr (by simp [hb])⟩
    · exact ⟨pre, line ++ [b], by simp [hl], by simp [hno, Ne.symm hb], hpre⟩

end CapyV.LineIndex
