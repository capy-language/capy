import CapyV.Model.Checks
/-! The index check of C10: the zero-extended index is the typed value read unsigned, and an element whose index
is below the length ends inside the array. Declared in `CapyV.C10`: the C10 statements cite `indexValue` under that
name. -/
namespace CapyV.C10
open CapyV.Checks

/-- the index value the program computed, as a number: the typed bit pattern read unsigned
(indices are type-checked against `usize`, so they are unsigned) -/
def indexValue (idxBits pattern : Nat) : Nat := pattern % 2 ^ idxBits

theorem widen_exact (idxBits pattern : Nat) (h : idxBits ≤ 64) :
    widenIndex idxBits pattern = indexValue idxBits pattern := by
  unfold widenIndex indexValue
  apply Nat.mod_eq_of_lt
  exact Nat.lt_of_lt_of_le (Nat.mod_lt _ (Nat.two_pow_pos _)) (Nat.pow_le_pow_right (by decide) h)

theorem elem_inside {i len size stride : Nat} (h : i < len) (hs : size ≤ stride) :
    i * stride + size ≤ len * stride := by
  have := Nat.mul_le_mul_right stride (Nat.succ_le_of_lt h)
  rw [Nat.succ_mul] at this
  omega

end CapyV.C10
