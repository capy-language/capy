import CapyV.Model.Imports
/-!
# The import worklist of `compile_file` (C28)

`worklist imps ord fuel entry` parses every file reachable from `entry` through the import
graph exactly once, the entry file first, and `fuel > number of files` is always enough.
-/
namespace CapyV.Imports

/-- files reachable from `entry` through the import graph -/
inductive Reach {α : Type} (imps : α → List α) (entry : α) : α → Prop
  | refl : Reach imps entry entry
  | step {a b : α} : Reach imps entry a → b ∈ imps a → Reach imps entry b

section WorklistProofs
variable {α : Type} [DecidableEq α]

theorem mem_extendSet {cur xs : List α} {x : α} :
    x ∈ extendSet cur xs ↔ x ∈ cur ∨ x ∈ xs := by
  unfold extendSet
  induction xs generalizing cur with
  | nil => simp
  | cons y ys ih =>
    rw [List.foldl_cons, ih, List.mem_cons]
    split
    · next hy =>
      constructor
      · rintro (h | h)
        · exact .inl h
        · exact .inr (.inr h)
      · rintro (h | rfl | h)
        · exact .inl h
        · exact .inl hy
        · exact .inr h
    · simp only [List.mem_append, List.mem_singleton, or_assoc]

/-- invariant of the fold `round`: `st = (parsed, cur)`, `rest` = the files of the round
that are still to be visited -/
structure RInv (imps : α → List α) (entry : α) (st : List α × List α) (rest : List α) :
    Prop where
  nodup : st.1.Nodup
  head : st.1.head? = some entry
  reachP : ∀ x ∈ st.1, Reach imps entry x
  reachC : ∀ x ∈ st.2, Reach imps entry x
  reachR : ∀ x ∈ rest, Reach imps entry x
  -- no import of a parsed file is lost: with nothing pending this is closure (`LInv.final`)
  closed : ∀ a ∈ st.1, ∀ b ∈ imps a, b ∈ st.1 ∨ b ∈ rest ∨ b ∈ st.2

theorem RInv.step {imps : α → List α} {entry : α} {st : List α × List α} {f : α}
    {rest : List α} (h : RInv imps entry st (f :: rest)) :
    RInv imps entry (roundStep imps st f) rest := by
  have hR := fun x hx => h.reachR x (List.mem_cons_of_mem _ hx)
  have hcl : ∀ a ∈ st.1, ∀ b ∈ imps a, b ∈ st.1 ∨ b = f ∨ b ∈ rest ∨ b ∈ st.2 := by
    simpa only [List.mem_cons, or_assoc] using h.closed
  unfold roundStep
  split
  · next hf =>
    refine ⟨h.nodup, h.head, h.reachP, h.reachC, hR, fun a ha b hb => ?_⟩
    rcases hcl a ha b hb with h1 | rfl | h1
    · exact .inl h1
    · exact .inl hf
    · exact .inr h1
  · next hf =>
    have hfR := h.reachR f List.mem_cons_self
    refine ⟨?_, ?_, ?_, ?_, hR, ?_⟩
    · refine List.nodup_append.2 ⟨h.nodup, by simp, fun a ha b hb e => hf ?_⟩
      rwa [← List.mem_singleton.1 hb, ← e]
    · have := h.head
      cases hs : st.1 with
      | nil => rw [hs] at this; cases this
      | cons a l => rwa [hs] at this
    · simp only [List.mem_append, List.mem_singleton]
      rintro x (hx | rfl)
      · exact h.reachP x hx
      · exact hfR
    · simp only [mem_extendSet]
      rintro x (hx | hx)
      · exact h.reachC x hx
      · exact .step hfR hx
    · simp only [List.mem_append, List.mem_singleton, mem_extendSet]
      rintro a (ha | rfl) b hb
      · rcases hcl a ha b hb with h1 | h1 | h1 | h1
        · exact .inl (.inl h1)
        · exact .inl (.inr h1)
        · exact .inr (.inl h1)
        · exact .inr (.inr (.inl h1))
      · exact .inr (.inr (.inr hb))

theorem RInv.foldl {imps : α → List α} {entry : α} (rest : List α) (st : List α × List α)
    (h : RInv imps entry st rest) :
    RInv imps entry (rest.foldl (roundStep imps) st) [] := by
  induction rest generalizing st with
  | nil => exact h
  | cons f rest ih => exact ih _ h.step

theorem foldl_progress (imps : α → List α) (rest : List α) (st : List α × List α) :
    rest.foldl (roundStep imps) st = st ∨
      st.1.length < (rest.foldl (roundStep imps) st).1.length := by
  induction rest generalizing st with
  | nil => exact Or.inl rfl
  | cons f rest ih =>
    simp only [List.foldl_cons]
    by_cases hf : f ∈ st.1
    · have : roundStep imps st f = st := by simp [roundStep, hf]
      rw [this]
      exact ih st
    · have h1 : (roundStep imps st f).1.length = st.1.length + 1 := by
        simp [roundStep, hf]
      right
      rcases ih (roundStep imps st f) with h2 | h2
      · rw [h2]; omega
      · omega

/-- the invariant of the `while` loop: `RInv` between two rounds, when nothing is pending -/
abbrev LInv (imps : α → List α) (entry : α) (parsed cur : List α) : Prop :=
  RInv imps entry (parsed, cur) []

theorem LInv.round {imps : α → List α} {ord : List α → List α} {entry : α}
    (hord : ∀ l x, x ∈ ord l ↔ x ∈ l) {parsed cur : List α}
    (h : LInv imps entry parsed cur) :
    LInv imps entry (round imps parsed (ord cur)).1 (round imps parsed (ord cur)).2 := by
  unfold Imports.round
  apply RInv.foldl
  refine ⟨h.nodup, h.head, h.reachP, by simp, ?_, ?_⟩
  · intro x hx
    exact h.reachC x ((hord _ _).1 hx)
  · intro a ha b hb
    rcases h.closed a ha b hb with h1 | h1 | h1
    · exact Or.inl h1
    · simp at h1
    · exact Or.inr (Or.inl ((hord _ _).2 h1))

theorem loop_sound {imps : α → List α} {ord : List α → List α} {entry : α}
    (hord : ∀ l x, x ∈ ord l ↔ x ∈ l) (fuel : Nat) (parsed cur res : List α)
    (h : LInv imps entry parsed cur) (hres : loop imps ord fuel parsed cur = some res) :
    LInv imps entry res [] := by
  induction fuel generalizing parsed cur with
  | zero => simp [loop] at hres
  | succ fuel ih =>
    unfold loop at hres
    split at hres
    · rename_i hc
      subst hc
      cases hres
      exact h
    · exact ih _ _ (h.round hord) hres

theorem loop_mono (imps : α → List α) (ord : List α → List α) (f1 f2 : Nat)
    (parsed cur res : List α) (hle : f1 ≤ f2)
    (hres : loop imps ord f1 parsed cur = some res) :
    loop imps ord f2 parsed cur = some res := by
  induction f1 generalizing f2 parsed cur with
  | zero => simp [loop] at hres
  | succ f1 ih =>
    cases f2 with
    | zero => omega
    | succ f2 =>
      unfold loop at hres ⊢
      split
      · rename_i hc
        simpa [hc] using hres
      · rename_i hc
        simp only [hc, if_false] at hres
        exact ih _ _ _ (by omega) hres

/-- `+ 2`: a round that parses no new file leaves `cur` empty, and one more iteration sees that
and returns. -/
theorem loop_terminates {imps : α → List α} {ord : List α → List α} {entry : α}
    (hord : ∀ l x, x ∈ ord l ↔ x ∈ l) (U : List α)
    (hU : ∀ x, Reach imps entry x → x ∈ U) (n : Nat)
    (parsed cur : List α) (h : LInv imps entry parsed cur) (hn : U.length ≤ parsed.length + n) :
    ∃ res, ∀ k, loop imps ord (k + n + 2) parsed cur = some res := by
  induction n using Nat.strongRecOn generalizing parsed cur with
  | _ n ih =>
    by_cases hc : cur = []
    · exact ⟨parsed, fun k => by rw [loop, if_pos hc]⟩
    · have h' := h.round hord
      have hlen : (Imports.round imps parsed (ord cur)).1.length ≤ U.length :=
        h'.nodup.length_le_of_subset (fun x hx => hU x (h'.reachP x hx))
      rcases foldl_progress imps (ord cur) (parsed, []) with hp | hp
      · have hp' : Imports.round imps parsed (ord cur) = (parsed, []) := hp
        exact ⟨parsed, fun k => by rw [loop, if_neg hc, hp', loop, if_pos rfl]⟩
      · have hp' : parsed.length < (Imports.round imps parsed (ord cur)).1.length := hp
        obtain ⟨m, rfl⟩ : ∃ m, n = m + 1 := ⟨n - 1, by omega⟩
        obtain ⟨res, hres⟩ := ih m (Nat.lt_succ_self m) _ _ h' (by omega)
        refine ⟨res, fun k => ?_⟩
        rw [loop, if_neg hc]
        exact hres k

theorem worklist_init (imps : α → List α) (entry : α) :
    LInv imps entry [entry] (extendSet [] (imps entry)) := by
  refine ⟨by simp, rfl, ?_, ?_, by simp, ?_⟩
  · intro x hx
    simp only [List.mem_singleton] at hx
    subst hx
    exact Reach.refl
  · intro x hx
    rcases mem_extendSet.1 hx with hx | hx
    · simp at hx
    · exact Reach.step Reach.refl hx
  · intro a ha b hb
    simp only [List.mem_singleton] at ha
    subst ha
    exact Or.inr (Or.inr (mem_extendSet.2 (Or.inr hb)))

omit [DecidableEq α] in
theorem LInv.final {imps : α → List α} {entry : α} {res : List α}
    (h : LInv imps entry res []) :
    res.Nodup ∧ res.head? = some entry ∧ ∀ f, f ∈ res ↔ Reach imps entry f := by
  refine ⟨h.nodup, h.head, fun f => ⟨h.reachP f, ?_⟩⟩
  intro hf
  induction hf with
  | refl =>
    have := h.head
    cases res with
    | nil => simp at this
    | cons a l =>
      simp only [List.head?_cons, Option.some.injEq] at this
      subst this
      exact List.mem_cons_self
  | step _ hb ih =>
    rcases h.closed _ ih _ hb with h1 | h1 | h1
    · exact h1
    · simp at h1
    · simp at h1

theorem worklist_sound (imps : α → List α) (ord : List α → List α)
    (hord : ∀ l x, x ∈ ord l ↔ x ∈ l) (entry : α) (fuel : Nat) (res : List α)
    (hres : worklist imps ord fuel entry = some res) :
    res.Nodup ∧ res.head? = some entry ∧ ∀ f, f ∈ res ↔ Reach imps entry f :=
  (loop_sound hord fuel _ _ res (worklist_init imps entry) hres).final

theorem worklist_spec (imps : α → List α) (ord : List α → List α)
    (hord : ∀ l x, x ∈ ord l ↔ x ∈ l)
    (U : List α) (entry : α) (hU : entry ∈ U) (hclosed : ∀ a ∈ U, ∀ b ∈ imps a, b ∈ U) :
    ∃ res, (∀ fuel, U.length + 1 ≤ fuel → worklist imps ord fuel entry = some res) ∧
      res.Nodup ∧ res.head? = some entry ∧ ∀ f, f ∈ res ↔ Reach imps entry f := by
  have hR : ∀ x, Reach imps entry x → x ∈ U := by
    intro x hx
    induction hx with
    | refl => exact hU
    | step _ hb ih => exact hclosed _ ih _ hb
  have hpos : 0 < U.length := List.length_pos_of_mem hU
  obtain ⟨res, hres⟩ := loop_terminates hord U hR (U.length - 1) [entry]
    (extendSet [] (imps entry)) (worklist_init imps entry) (by simp; omega)
  have hres' : ∀ fuel, U.length + 1 ≤ fuel → worklist imps ord fuel entry = some res := by
    intro fuel hf
    have := hres (fuel - (U.length + 1))
    rwa [show fuel - (U.length + 1) + (U.length - 1) + 2 = fuel by omega] at this
  exact ⟨res, hres', worklist_sound imps ord hord entry _ res (hres' _ (Nat.le_refl _))⟩

theorem worklist_count_one (imps : α → List α) (ord : List α → List α)
    (hord : ∀ l x, x ∈ ord l ↔ x ∈ l) (entry : α) (fuel : Nat) (res : List α) :
    worklist imps ord fuel entry = some res →
      (∀ f, Reach imps entry f → res.count f = 1) ∧
      (∀ f, ¬ Reach imps entry f → res.count f = 0) := by
  intro hres
  obtain ⟨hnd, _, hmem⟩ := worklist_sound imps ord hord entry fuel res hres
  constructor
  · intro f hf
    rw [hnd.count, if_pos ((hmem f).2 hf)]
  · intro f hf
    exact List.count_eq_zero.2 (fun h => hf ((hmem f).1 h))

end WorklistProofs

end CapyV.Imports
