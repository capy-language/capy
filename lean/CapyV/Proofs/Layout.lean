import CapyV.Model.Layout
import CapyV.Proofs.Ty
/-! Well-formedness of types and the lemmas about the layout model: alignments, padding and stride, struct
fields, enum tags. C17 states them; C02, C18 and C19 build on them. -/
namespace CapyV.Layout
open CapyV

/-- integer widths the front end can produce (`0` weak, `255` pointer sized) -/
def okIntWidth (w : Nat) : Bool :=
  w == 0 || w == 8 || w == 16 || w == 32 || w == 64 || w == 128 || w == 255

def okFloatWidth (w : Nat) : Bool := w == 0 || w == 32 || w == 64

/-- pointer widths Cranelift targets have -/
def okPw (pw : Nat) : Bool := pw == 16 || pw == 32 || pw == 64

theorem okPw_cases {pw : Nat} (h : okPw pw = true) : pw = 16 ∨ pw = 32 ∨ pw = 64 := by
  simpa [okPw, or_assoc] using h

theorem okIntWidth_cases {w : Nat} (h : okIntWidth w = true) :
    w = 0 ∨ w = 8 ∨ w = 16 ∨ w = 32 ∨ w = 64 ∨ w = 128 ∨ w = 255 := by
  simpa [okIntWidth, or_assoc] using h

theorem okFloatWidth_cases {w : Nat} (h : okFloatWidth w = true) : w = 0 ∨ w = 32 ∨ w = 64 := by
  simpa [okFloatWidth, or_assoc] using h

mutual
/-- Well-formed type: every integer / float width occurring in it is a real one. -/
def wf : Ty → Bool
  | .iint w | .uint w => okIntWidth w
  | .float w => okFloatWidth w
  | .anonArray _ s | .concreteArray _ s | .slice s | .pointer _ s | .distinct _ s
  | .optional s | .enumVariant _ _ _ s _ => wf s
  | .errorUnion a b => wf a && wf b
  | .concreteFn ps r _ | .fnPointer ps r => wfParams ps && wf r
  | .anonStruct ms | .concreteStruct _ ms => wfMembers ms
  | .enum _ vs => wfTys vs
  | _ => true
def wfMembers : Members → Bool
  | .nil => true
  | .cons _ t r => wf t && wfMembers r
def wfParams : Params → Bool
  | .nil => true
  | .cons t _ _ _ r => wf t && wfParams r
def wfTys : Tys → Bool
  | .nil => true
  | .cons t r => wf t && wfTys r
end

def Pow2Le8 (a : Nat) : Prop := a = 1 ∨ a = 2 ∨ a = 4 ∨ a = 8

theorem Pow2Le8.pos {a : Nat} (h : Pow2Le8 a) : 0 < a := by
  rcases h with h | h | h | h <;> omega

theorem Pow2Le8.le {a : Nat} (h : Pow2Le8 a) : a ≤ 8 := by
  rcases h with h | h | h | h <;> omega

theorem pow2_ite {c : Prop} [Decidable c] {a b : Nat} (ha : Pow2Le8 a) (hb : Pow2Le8 b) :
    Pow2Le8 (if c then a else b) := by
  split <;> assumption

theorem ptr_align_ok {pw : Nat} (hpw : okPw pw = true) : Pow2Le8 (min (pw / 8) 8) := by
  rcases okPw_cases hpw with rfl | rfl | rfl <;> simp [Pow2Le8]

theorem int_align_ok {pw w : Nat} (hpw : okPw pw = true) (hw : okIntWidth w = true) :
    Pow2Le8 (min (intSize pw w) 8) := by
  unfold intSize
  split
  · exact ptr_align_ok hpw
  · rcases okIntWidth_cases hw with rfl | rfl | rfl | rfl | rfl | rfl | rfl <;> simp [Pow2Le8]

theorem float_align_ok {w : Nat} (hw : okFloatWidth w = true) : Pow2Le8 (min (floatSize w) 8) := by
  rcases okFloatWidth_cases hw with rfl | rfl | rfl <;> simp [floatSize, Pow2Le8]

theorem any_align_ok {pw : Nat} (hpw : okPw pw = true) : Pow2Le8 (anyAlign pw) := by
  rcases okPw_cases hpw with rfl | rfl | rfl <;> simp [anyAlign, Pow2Le8]

mutual
theorem align_ok (pw : Nat) (hpw : okPw pw = true) : (t : Ty) → wf t = true → Pow2Le8 (layout pw t).2
  | .notYetResolved, _ | .unknown, _ | .bool, _ | .char, _ | .nil, _ | .void, _
  | .alwaysJumps, _ | .file _, _ => .inl rfl
  | .iint _, h | .uint _, h => int_align_ok hpw h
  | .float _, h => float_align_ok h
  | .string, _ | .pointer _ _, _ | .naivePolyFn _, _ | .concreteFn _ _ _, _ | .fnPointer _ _, _
  | .rawPtr _, _ => ptr_align_ok hpw
  | .slice _, _ | .rawSlice, _ => by
    show Pow2Le8 (min (pw / 8 * 2 / 2) 8)
    rw [Nat.mul_div_cancel _ Nat.two_pos]
    exact ptr_align_ok hpw
  | .type, _ => .inr (.inr (.inl rfl))
  | .any, _ => any_align_ok hpw
  | .anonArray _ s, h | .concreteArray _ s, h | .distinct _ s, h | .enumVariant _ _ _ s _, h => align_ok pw hpw s h
  | .optional s, h => by
    have := align_ok pw hpw s h
    simp only [layout]
    split <;> exact this
  | .errorUnion a b, h => by
    have hw : wf a = true ∧ wf b = true := by simpa [wf] using h
    show Pow2Le8 (max _ _)
    rw [Nat.max_def]
    exact pow2_ite (align_ok pw hpw b hw.2) (align_ok pw hpw a hw.1)
  | .anonStruct ms, h | .concreteStruct _ ms, h => struct_align_ok pw hpw ms h 0 1 (.inl rfl)
  | .enum _ vs, h => variants_align_ok pw hpw vs h 0 1 (.inl rfl)
theorem struct_align_ok (pw : Nat) (hpw : okPw pw = true) :
    (ms : Members) → wfMembers ms = true → ∀ cur ma, Pow2Le8 ma → Pow2Le8 (structLayout pw ms cur ma).2
  | .nil, _ => by
    intro cur ma h
    simpa [structLayout] using h
  | .cons _ t r, h => by
    intro cur ma hma
    have hw : wf t = true ∧ wfMembers r = true := by simpa [wfMembers] using h
    have ht := align_ok pw hpw t hw.1
    simp only [structLayout]
    exact struct_align_ok pw hpw r hw.2 _ _ (pow2_ite ht hma)
theorem variants_align_ok (pw : Nat) (hpw : okPw pw = true) :
    (vs : Tys) → wfTys vs = true → ∀ ms ma, Pow2Le8 ma → Pow2Le8 (variantsMax pw vs ms ma).2
  | .nil, _ => by
    intro ms ma h
    simpa [variantsMax] using h
  | .cons t r, h => by
    intro ms ma hma
    have hw : wf t = true ∧ wfTys r = true := by simpa [wfTys] using h
    have ht := align_ok pw hpw t hw.1
    simp only [variantsMax]
    exact variants_align_ok pw hpw r hw.2 _ _ (pow2_ite ht hma)
end

theorem padNeeded_aligned (off a : Nat) (ha : 0 < a) : (off + padNeeded off a) % a = 0 := by
  have hlt := Nat.mod_lt off ha
  simp only [padNeeded]
  split
  · rw [Nat.add_mod, Nat.mod_eq_of_lt (a := a - off % a) (by omega), Nat.add_sub_cancel' (Nat.le_of_lt hlt),
      Nat.mod_self]
  · rw [Nat.add_zero]
    omega

theorem padNeeded_lt (off a : Nat) (ha : 0 < a) : padNeeded off a < a := by
  simp only [padNeeded]
  split <;> omega

/-- `x &&& (2^32 - 2^k)` clears the low `k` bits of a 32-bit value. -/
theorem and_mask (x k : Nat) (hk : k ≤ 32) (hx : x < 2 ^ 32) :
    x &&& (0xFFFFFFFF - (2 ^ k - 1)) = x / 2 ^ k * 2 ^ k := by
  have hp : (2:Nat) ^ 32 = 2 ^ k * 2 ^ (32 - k) := by
    rw [← Nat.pow_add]
    congr 1
    omega
  have hm : (0xFFFFFFFF : Nat) - (2 ^ k - 1) = (2 ^ (32 - k) - 1) * 2 ^ k := by
    have h1 : 1 ≤ (2:Nat) ^ k := Nat.one_le_two_pow
    have h2 : 1 ≤ (2:Nat) ^ (32 - k) := Nat.one_le_two_pow
    have : (0xFFFFFFFF : Nat) = 2 ^ 32 - 1 := by decide
    rw [Nat.sub_mul, Nat.one_mul, Nat.mul_comm, ← hp]
    omega
  -- the mask is `2 ^ (32 - k) - 1` shifted left by `k`: modulo `2 ^ k` nothing of `x` survives, above it everything
  rw [hm, ← Nat.div_add_mod (x &&& _) (2 ^ k), Nat.and_div_two_pow, Nat.and_mod_two_pow,
    Nat.mul_div_cancel _ (Nat.two_pow_pos k), Nat.mul_mod_left, Nat.and_zero, Nat.add_zero,
    Nat.and_two_pow_sub_one_of_lt_two_pow (Nat.div_lt_of_lt_mul (hp ▸ hx)), Nat.mul_comm]

/-- As long as the `u32` addition does not overflow, `stride` rounds the size up to a multiple of the
alignment. -/
theorem stride_eq (s a : Nat) (ha : Pow2Le8 a) (hs : s + a - 1 < 2 ^ 32) :
    stride s a = (s + (a - 1)) / a * a := by
  rcases ha with rfl | rfl | rfl | rfl
  · exact and_mask _ 0 (by omega) (by omega)
  · exact and_mask _ 1 (by omega) (by omega)
  · exact and_mask _ 2 (by omega) (by omega)
  · exact and_mask _ 3 (by omega) (by omega)

theorem stride_spec {s a : Nat} (ha : Pow2Le8 a) (hs : s + a - 1 < 2 ^ 32) :
    stride s a % a = 0 ∧ s ≤ stride s a ∧ stride s a < s + a := by
  have hdm := Nat.div_add_mod (s + (a - 1)) a
  have hlt := Nat.mod_lt (s + (a - 1)) ha.pos
  rw [stride_eq s a ha hs, Nat.mul_comm]
  exact ⟨Nat.mul_mod_right _ _, by omega, by omega⟩

/-- rounding up to a multiple of `a` and then of `a * c` is rounding up to a multiple of `a * c` -/
theorem roundUp_roundUp (s a c : Nat) (ha : 0 < a) (hc : 0 < c) :
    ((s + (a - 1)) / a * a + (a * c - 1)) / (a * c) = (s + (a * c - 1)) / (a * c) := by
  have e : a * c - 1 = a - 1 + a * (c - 1) := by
    obtain ⟨c, rfl⟩ : ∃ k, c = k + 1 := ⟨c - 1, by omega⟩
    rw [Nat.mul_add, Nat.mul_one, Nat.add_sub_cancel]
    omega
  have h : ∀ x, x < a → ∀ y, (y * a + (x + a * (c - 1))) / a = y + (c - 1) := fun x hx y => by
    rw [← Nat.add_assoc, Nat.add_mul_div_left _ _ ha, Nat.mul_comm, Nat.mul_add_div ha, Nat.div_eq_of_lt hx,
      Nat.add_zero]
  rw [← Nat.div_div_eq_div_mul, ← Nat.div_div_eq_div_mul, e, h _ (by omega), ← Nat.add_assoc,
    Nat.add_mul_div_left _ _ ha]

/-- The alignment divides 8, so the stride spans as many eightbytes as the size. -/
theorem stride_eightbytes {s a : Nat} (ha : Pow2Le8 a) (hs : s + a - 1 < 2 ^ 32) :
    (stride s a + 7) / 8 = (s + 7) / 8 := by
  rw [stride_eq s a ha hs]
  rcases ha with rfl | rfl | rfl | rfl
  · exact roundUp_roundUp s 1 8 (by omega) (by omega)
  · exact roundUp_roundUp s 2 4 (by omega) (by omega)
  · exact roundUp_roundUp s 4 2 (by omega) (by omega)
  · exact roundUp_roundUp s 8 1 (by omega) (by omega)

/-- Fields sit in declaration order, each at a multiple of its alignment, without overlap,
between `lo` and `hi`. -/
def FieldsOk (pw : Nat) : Members → List Nat → Nat → Nat → Prop
  | .nil, [], lo, hi => lo ≤ hi
  | .cons _ t r, o :: os, lo, hi =>
    lo ≤ o ∧ o % align pw t = 0 ∧ FieldsOk pw r os (o + size pw t) hi
  | _, _, _, _ => False

theorem structLayout_cons (pw n : Nat) (t : Ty) (r : Members) (cur ma : Nat) :
    structLayout pw (.cons n t r) cur ma =
      structLayout pw r (cur + padNeeded cur (align pw t) + size pw t) (if align pw t > ma then align pw t else ma) :=
  rfl

theorem structLayout_ge (pw : Nat) : (ms : Members) → (cur ma : Nat) → cur ≤ (structLayout pw ms cur ma).1
  | .nil, _, _ => Nat.le_refl _
  | .cons _ _ r, _, _ => by
    rw [structLayout_cons]
    exact Nat.le_trans (by omega) (structLayout_ge pw r _ _)

theorem structLayout_size_indep (pw : Nat) : (ms : Members) → (cur ma ma' : Nat) →
    (structLayout pw ms cur ma).1 = (structLayout pw ms cur ma').1
  | .nil, _, _, _ => by simp [structLayout]
  | .cons _ _ r, _, _, _ => by
    simp only [structLayout]
    exact structLayout_size_indep pw r _ _ _

theorem fields_ok (pw : Nat) (hpw : okPw pw = true) : (ms : Members) → wfMembers ms = true →
    (cur ma : Nat) → FieldsOk pw ms (structOffsets pw ms cur) cur (structLayout pw ms cur ma).1
  | .nil, _, _, _ => by simp [FieldsOk, structOffsets, structLayout]
  | .cons _ t r, hw, cur, ma => by
    have hw' : wf t = true ∧ wfMembers r = true := by simpa [wfMembers] using hw
    have ha : 0 < align pw t := (align_ok pw hpw t hw'.1).pos
    simp only [FieldsOk, structOffsets, structLayout]
    refine ⟨by omega, padNeeded_aligned cur _ ha, ?_⟩
    exact fields_ok pw hpw r hw'.2 _ _

theorem structOffsets_length (pw : Nat) : (ms : Members) → (cur : Nat) →
    (structOffsets pw ms cur).length = ms.length
  | .nil, _ => rfl
  | .cons _ _ r, _ => by simp [structOffsets, Members.length, structOffsets_length pw r]

theorem variantsMax_cons (pw : Nat) (t : Ty) (r : Tys) (ms ma : Nat) :
    variantsMax pw (.cons t r) ms ma = variantsMax pw r (max ms (size pw t)) (max ma (align pw t)) := by
  have e : ∀ a b : Nat, (if a > b then a else b) = max b a := fun a b => by
    rw [Nat.max_def]
    split <;> split <;> omega
  simp only [variantsMax, e]
  rfl

theorem variantsMax_fst_ge (pw : Nat) : (vs : Tys) → (ms ma : Nat) → ms ≤ (variantsMax pw vs ms ma).1
  | .nil, _, _ => Nat.le_refl _
  | .cons _ r, _, _ => by
    rw [variantsMax_cons]
    exact Nat.le_trans (Nat.le_max_left _ _) (variantsMax_fst_ge pw r _ _)

theorem variantsMax_fst_bound (pw : Nat) : (vs : Tys) → (ms ma : Nat) →
    ∀ v ∈ vs.toList, size pw v ≤ (variantsMax pw vs ms ma).1
  | .nil, _, _ => by simp [Tys.toList]
  | .cons t r, ms, ma => by
    intro v hv
    rw [variantsMax_cons]
    rcases List.mem_cons.1 hv with rfl | hv
    · exact Nat.le_trans (Nat.le_max_right _ _) (variantsMax_fst_ge pw r _ _)
    · exact variantsMax_fst_bound pw r _ _ v hv

theorem variantsMax_fst_attained (pw : Nat) : (vs : Tys) → (ms ma : Nat) →
    (variantsMax pw vs ms ma).1 = ms ∨ ∃ v ∈ vs.toList, size pw v = (variantsMax pw vs ms ma).1
  | .nil, _, _ => .inl rfl
  | .cons t r, ms, ma => by
    rw [variantsMax_cons]
    rcases variantsMax_fst_attained pw r (max ms (size pw t)) (max ma (align pw t)) with h | ⟨v, hv, he⟩
    · rcases Nat.le_total ms (size pw t) with hle | hle
      · exact .inr ⟨t, List.mem_cons_self, by rw [h, Nat.max_eq_right hle]⟩
      · exact .inl (by rw [h, Nat.max_eq_left hle])
    · exact .inr ⟨v, List.mem_cons_of_mem _ hv, he⟩

theorem layout_absoluteTy (pw : Nat) (t : Ty) : layout pw t.absoluteTy = layout pw t :=
  Ty.absoluteTy_congr _ (fun _ _ => rfl) (fun _ _ _ _ _ => rfl) t

theorem isPointer_layout (pw : Nat) (t : Ty) (h : t.isPointer = true) : layout pw t = (pw / 8, min (pw / 8) 8) := by
  rw [← layout_absoluteTy]
  rcases Ty.absoluteTy_of_isPointer h with ⟨_, _, e⟩ | ⟨_, e⟩
  · rw [e]
    rfl
  · rw [e]
    rfl

theorem optional_discriminantOffset (pw : Nat) (sub : Ty) (h : sub.isPointer = false) :
    discriminantOffsetOf pw (.optional sub) = some (size pw sub) := by
  simp [discriminantOffsetOf, Ty.absoluteTy, Ty.isNonZero, h]

theorem size_of_discriminantOffset {pw : Nat} {t : Ty} {d : Nat} (h : discriminantOffsetOf pw t = some d) :
    size pw t = d + 1 := by
  unfold size
  rw [← layout_absoluteTy]
  unfold discriminantOffsetOf at h
  split at h <;> rename_i e
  · -- enum: the tag follows the largest variant
    cases h
    simp [e, layout]
  · -- optional: no tag over a pointer (`h : none = some d`), else the tag follows the payload
    split at h <;> cases h
    simp [layout, *]
    rfl
  · -- error union: the tag follows the larger side
    cases h
    simp [e, layout]
    rfl
  · -- anything else has no tag
    cases h

end CapyV.Layout
