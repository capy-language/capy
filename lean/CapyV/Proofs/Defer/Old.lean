import CapyV.Model.Defer
/-! The two earlier defer schemes of the code generator, kept for the counterexamples of C03. -/
namespace CapyV.Defer

/-! ### the scheme before the fix (documentation of the two confirmed defects)
Loops pushed no defer frame (so a `break` to the loop's label found no frame with that id and
ran every frame of the function) and `continue` ran nothing. Everything else is `compileStmt`. -/

mutual
def compileStmtOld (emit : Emit) : Stmt → List Frame → Option (Ts × List Frame × Bool)
  | .print c, fr => some (.cons (.emit c) .nil, fr, false)
  | .defer b, fr => (registerDefer b fr).map fun fr' => (.nil, fr', false)
  | .block label body, fr =>
    match closeBlock emit (compileStmtsOld emit body ((label, []) :: fr)) with
    | none => none
    | some (tb, ex) => some (.cons (.block label tb ex) .nil, fr, false)
  | .loop label body, fr =>
    match closeBlock emit (compileStmtsOld emit body ((none, []) :: fr)) with
    | none => none
    | some (tb, ex) => some (.cons (.loop label tb ex) .nil, fr, false)
  | .loopC label cond body, fr =>
    match closeBlock emit (compileStmtsOld emit cond ((none, []) :: fr)) with
    | none => none
    | some (tc, exc) =>
      match closeBlock emit (compileStmtsOld emit body ((none, []) :: fr)) with
      | none => none
      | some (tb, ex) => some (.cons (.loopC label tc exc tb ex) .nil, fr, false)
  | .ifS body, fr =>
    match closeBlock emit (compileStmtsOld emit body ((none, []) :: fr)) with
    | none => none
    | some (tb, ex) => some (.cons (.ifT tb ex) .nil, fr, false)
  | .brk l, fr => (defersUpTo emit l fr).map fun code => (.cons (.jump false l code) .nil, fr, true)
  | .cont l, fr => some (.cons (.jump true l .nil) .nil, fr, true)
  | .tryS l, fr => (defersUpTo emit l fr).map fun code => (.cons (.tryT l code) .nil, fr, false)
def compileStmtsOld (emit : Emit) : Stmts → List Frame → Option (Ts × List Frame × Bool)
  | .nil, fr => some (.nil, fr, false)
  | .cons s rest, fr =>
    match compileStmtOld emit s fr with
    | none => none
    | some (ts, fr', stop) =>
      if stop then some (ts, fr', true) else
      match compileStmtsOld emit rest fr' with
      | none => none
      | some (tr, fr'', stop') => some (Ts.append ts tr, fr'', stop')
end

def runCompiledOld (fuel : Nat) (body : Stmts) (oracle : List Bool) : Option (List Nat) :=
  let emit := compileDeferred (deferDepth body)
  match closeBlock emit (compileStmtsOld emit body [(some 0, [])]) with
  | none => none
  | some (tb, ex) =>
    some (execT fuel (.block (some 0) tb ex) { trace := [], oracle }).2.trace.reverse

/-! ### the scheme between the two fixes (documentation of the third confirmed defect)
Loops had a defer frame, but `Expr::While` pushed it only AFTER compiling the condition: a
`break l` / `continue l` inside a block condition found no frame with id `l` and ran every
frame of the function. Everything else is `compileStmt`. -/

mutual
def compileStmtMid (emit : Emit) : Stmt → List Frame → Option (Ts × List Frame × Bool)
  | .print c, fr => some (.cons (.emit c) .nil, fr, false)
  | .defer b, fr => (registerDefer b fr).map fun fr' => (.nil, fr', false)
  | .block label body, fr =>
    match closeBlock emit (compileStmtsMid emit body ((label, []) :: fr)) with
    | none => none
    | some (tb, ex) => some (.cons (.block label tb ex) .nil, fr, false)
  | .loop label body, fr =>
    match closeBlock emit (compileStmtsMid emit body ((none, []) :: (some label, []) :: fr)) with
    | none => none
    | some (tb, ex) => some (.cons (.loop label tb ex) .nil, fr, false)
  | .loopC label cond body, fr =>
    -- the condition is compiled first, under the stack of the enclosing code …
    match closeBlock emit (compileStmtsMid emit cond ((none, []) :: fr)) with
    | none => none
    | some (tc, exc) =>
      -- … and only then the loop's frame is pushed
      match closeBlock emit (compileStmtsMid emit body ((none, []) :: (some label, []) :: fr)) with
      | none => none
      | some (tb, ex) => some (.cons (.loopC label tc exc tb ex) .nil, fr, false)
  | .ifS body, fr =>
    match closeBlock emit (compileStmtsMid emit body ((none, []) :: fr)) with
    | none => none
    | some (tb, ex) => some (.cons (.ifT tb ex) .nil, fr, false)
  | .brk l, fr => (defersUpTo emit l fr).map fun code => (.cons (.jump false l code) .nil, fr, true)
  | .cont l, fr => (defersUpTo emit l fr).map fun code => (.cons (.jump true l code) .nil, fr, true)
  | .tryS l, fr => (defersUpTo emit l fr).map fun code => (.cons (.tryT l code) .nil, fr, false)
def compileStmtsMid (emit : Emit) : Stmts → List Frame → Option (Ts × List Frame × Bool)
  | .nil, fr => some (.nil, fr, false)
  | .cons s rest, fr =>
    match compileStmtMid emit s fr with
    | none => none
    | some (ts, fr', stop) =>
      if stop then some (ts, fr', true) else
      match compileStmtsMid emit rest fr' with
      | none => none
      | some (tr, fr'', stop') => some (Ts.append ts tr, fr'', stop')
end

def runCompiledMid (fuel : Nat) (body : Stmts) (oracle : List Bool) : Option (List Nat) :=
  let emit := compileDeferred (deferDepth body)
  match closeBlock emit (compileStmtsMid emit body [(some 0, [])]) with
  | none => none
  | some (tb, ex) =>
    some (execT fuel (.block (some 0) tb ex) { trace := [], oracle }).2.trace.reverse

end CapyV.Defer
