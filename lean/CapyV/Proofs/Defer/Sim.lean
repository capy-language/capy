import CapyV.Proofs.Defer.Semantics
/-! `sim_stmt`: the code compiled for a statement under a defer stack of closed bodies
(`FramesClosed`) ends in `settle` of the source's result: the same signal and, after a jump, the
state in which the deferred bodies down to the target have already run (`Debt`, `unwindS`). It
assumes `EmitOK` of the function that compiles deferred bodies; `compileDeferred_ok` discharges
that by induction on the re-entry budget. -/
namespace CapyV.Defer

/-- `Bodies Closed fr`, written out because the statement of `sim_stmt` mentions it in this form;
the `Bodies.*` lemmas apply to it by unfolding -/
def FramesClosed (fr : List Frame) : Prop := ∀ f ∈ fr, ∀ b ∈ f.2, Closed b

/-- what `sim_stmt` assumes of the function that compiles deferred bodies; `compileDeferred_ok`
discharges it -/
def EmitOK (fuel : Nat) (emit : Emit) : Prop :=
  ∀ b fr tb, Closed b → FramesClosed fr → emit b fr = some tb →
    ∀ st, execTs fuel tb st = (.normal, runner fuel b st)

/-- the run-time view of a frame: its registered actions -/
abbrev RFrame := Option Nat × List Reg

def toR (fuel : Nat) (f : Frame) : RFrame := (f.1, f.2.map (runner fuel))

/-- what the structural semantics does while a jump to `l` travels outwards through the
activations `rfr` (innermost first): each activation that is left runs its registrations,
down to and including the one labelled `l` — all of them if none is, as `defersUpTo` does, which
is why `sim_stmt` asks nothing of the targets of `brk` / `tryS` -/
def unwindS (l : Nat) : List RFrame → St → St
  | [], st => st
  | (id, rs) :: rest, st => if id = some l then runRegs rs st else unwindS l rest (runRegs rs st)

theorem emitDefers_ok {fuel : Nat} {emit : Emit} (hE : EmitOK fuel emit) (fr : List Frame)
    (hF : FramesClosed fr) : ∀ (ds : List Stmts) (t : Ts) (st : St), (∀ b ∈ ds, Closed b) →
    emitDefers emit ds fr = some t →
    execTs fuel t st = (.normal, runRegs (ds.map (runner fuel)) st)
  | [], t, st => by
    intro _ h
    cases h
    rfl
  | b :: ds, t, st => by
    intro hc h
    simp only [emitDefers] at h
    split at h
    · cases h
    rename_i tb hb
    split at h
    · cases h
    rename_i r hr
    cases h
    rw [execTs_append, hE b fr tb (hc b (List.mem_cons_self ..)) hF hb st]
    exact emitDefers_ok hE fr hF ds r _ (fun b' hb' => hc b' (List.mem_cons_of_mem _ hb')) hr

theorem defersUpTo_ok {fuel : Nat} {emit : Emit} (hE : EmitOK fuel emit) (l : Nat) :
    ∀ (fr : List Frame) (t : Ts) (st : St), FramesClosed fr → defersUpTo emit l fr = some t →
    execTs fuel t st = (.normal, unwindS l (fr.map (toR fuel)) st)
  | [], t, st => by
    intro _ h
    cases h
    rfl
  | (id, ds) :: rest, t, st => by
    intro hF h
    simp only [defersUpTo] at h
    split at h
    · cases h
    rename_i td hd
    have e1 := emitDefers_ok hE _ hF ds td st (Bodies.head hF) hd
    simp only [List.map_cons, toR, unwindS]
    by_cases hid : id = some l
    · rw [if_pos hid] at h ⊢
      cases h
      exact e1
    · rw [if_neg hid] at h ⊢
      split at h
      · cases h
      rename_i r hr
      cases h
      rw [execTs_append, e1]
      exact defersUpTo_ok hE l rest r _ (Bodies.tail hF) hr

/-- Source and target were started in the same state and the source produced signal `sig` in
state `s`. `normal`: the target is in the same state. A jump to `l`: the target has already
run, at the jump, the deferred bodies of every activation of `rfr` down to `l`'s — those the
source will run while the signal travels outwards. -/
def Debt (rfr : List RFrame) : Sig → St → St → Prop
  | .normal, s, t => t = s
  | .brk l, s, t => t = unwindS l rfr s
  | .cont l, s, t => t = unwindS l rfr s

/-- the result of a source statement (list) run with registrations growing to `rS.2.1` in the
top activation `id`, against the result of its code -/
def SimRes (id : Option Nat) (restR : List RFrame) (rS : Sig × List Reg × St) (rT : Sig × St) : Prop :=
  rT.1 = rS.1 ∧ Debt ((id, rS.2.1) :: restR) rS.1 rS.2.2 rT.2

/-- `Debt` as a function: the state of the generated code when the source, started in the same
state, has produced `sig` in state `s`. `sim_stmt` is stated with the relations `Debt` / `SimRes`;
the proofs compute with `settle` (`simRes_iff`). -/
def unwindSig (rfr : List RFrame) : Sig → St → St
  | .normal, s => s
  | .brk l, s => unwindS l rfr s
  | .cont l, s => unwindS l rfr s

/-- the result of the generated code, given the result of the source -/
def settle (rfr : List RFrame) (r : Sig × St) : Sig × St := (r.1, unwindSig rfr r.1 r.2)

/-- `settle` for the outcome of one loop iteration (`none` = next iteration) -/
def osettle (rfr : List RFrame) (r : Option Sig × St) : Option Sig × St :=
  (r.1, match r.1 with | none => r.2 | some sig => unwindSig rfr sig r.2)

theorem debt_iff {rfr : List RFrame} {sig : Sig} {s t : St} :
    Debt rfr sig s t ↔ t = unwindSig rfr sig s := by
  cases sig <;> rfl

theorem simRes_iff {id : Option Nat} {restR : List RFrame} {rS : Sig × List Reg × St} {rT : Sig × St} :
    SimRes id restR rS rT ↔ rT = settle ((id, rS.2.1) :: restR) (rS.1, rS.2.2) := by
  rw [SimRes, debt_iff, settle, Prod.ext_iff]

@[simp] theorem settle_normal (rfr : List RFrame) (s : St) : settle rfr (.normal, s) = (.normal, s) := rfl

/-- the key step: a jump that leaves an activation first runs that activation's registrations -/
theorem settle_cons_jump {id : Option Nat} {regs : List Reg} {rfr : List RFrame} {sig : Sig} {s : St}
    (h : sig ≠ .normal) :
    settle ((id, regs) :: rfr) (sig, s) = settle ((id, []) :: rfr) (sig, runRegs regs s) := by
  cases sig <;> first | exact absurd rfl h | simp only [settle, unwindSig, unwindS, runRegs_nil]

theorem settle_cons_none (rfr : List RFrame) (r : Sig × St) : settle ((none, []) :: rfr) r = settle rfr r := by
  obtain ⟨sig, s⟩ := r
  cases sig <;> simp [settle, unwindSig, unwindS]

theorem settle_bottom (id : Option Nat) (r : Sig × St) : settle [(id, [])] r = r := by
  obtain ⟨sig, s⟩ := r
  cases sig <;> simp [settle, unwindSig, unwindS]

/-- `h`: a `cont` that leaves a block is not aimed at the block (`block_no_cont`); the code would
have unwound only to the block, the source goes on to the loop -/
theorem catchBrk_settle {label : Option Nat} {rfr : List RFrame} {r : Sig × St}
    (h : ∀ l, r.1 = .cont l → label ≠ some l) :
    catchBrk label (settle ((label, []) :: rfr) r) = settle rfr (catchBrk label r) := by
  obtain ⟨sig, s⟩ := r
  cases sig with
  | normal => rfl
  | brk l => by_cases hl : label = some l <;> simp [settle, unwindSig, unwindS, hl]
  | cont l => simp [settle, unwindSig, unwindS, h l rfl]

/-- `r` comes from a block activation that has run its registrations (`blockT_sim`), and nothing
registers on a loop's own frame: both frames are empty -/
theorem loopNext_settle (label : Nat) (rfr : List RFrame) (r : Sig × St) :
    loopNext label (settle ((none, []) :: (some label, []) :: rfr) r) = osettle rfr (loopNext label r) := by
  obtain ⟨sig, s⟩ := r
  cases sig with
  | normal => rfl
  | brk l =>
    by_cases hl : label = l
    · simp [settle, osettle, unwindSig, unwindS, loopNext, hl]
    · simp [settle, osettle, unwindSig, unwindS, loopNext, hl, Ne.symm hl]
  | cont l =>
    by_cases hl : label = l
    · simp [settle, osettle, unwindSig, unwindS, loopNext, hl]
    · simp [settle, osettle, unwindSig, unwindS, loopNext, hl, Ne.symm hl]

theorem ifD_settle {rfr : List RFrame} {kS kT : St → Sig × St} (h : ∀ st, kT st = settle rfr (kS st))
    (st : St) : ifD kT st = settle rfr (ifD kS st) := by
  simp only [ifD]
  rcases st.decide with ⟨b, st1⟩
  cases b
  · rfl
  · exact h st1

theorem iter_settle {rfr : List RFrame} {stepS stepT : St → Option Sig × St}
    (h : ∀ st, stepT st = osettle rfr (stepS st)) : ∀ n st, iter stepT n st = settle rfr (iter stepS n st)
  | 0, st => rfl
  | n + 1, st => by
    simp only [iter, h st]
    rcases stepS st with ⟨o, s⟩
    cases o with
    | none => exact iter_settle h n s
    | some sig => rfl

theorem loopStep_settle (label : Nat) (rfr : List RFrame) {cS cT : St → Bool × Sig × St}
    {bS bT : St → Sig × St}
    (hc : ∀ st, cT st = ((cS st).1, settle ((none, []) :: (some label, []) :: rfr) (cS st).2))
    (hb : ∀ st, bT st = settle ((none, []) :: (some label, []) :: rfr) (bS st)) (st : St) :
    loopStep label cT bT st = osettle rfr (loopStep label cS bS st) := by
  simp only [loopStep, hc st]
  rcases cS st with ⟨d, sig, s⟩
  cases sig with
  | normal =>
    cases d
    · rfl
    · simp only [settle_normal, hb]
      exact loopNext_settle ..
  | brk l => cases d <;> exact loopNext_settle label rfr (.brk l, s)
  | cont l => cases d <;> exact loopNext_settle label rfr (.cont l, s)

theorem closeBlock_some {emit : Emit} {c : Option (Ts × List Frame × Bool)} {tb ex : Ts}
    (h : closeBlock emit c = some (tb, ex)) :
    ∃ id ds below stopb, c = some (tb, (id, ds) :: below, stopb) ∧
      if stopb then ex = .nil else emitDefers emit ds below = some ex := by
  match c with
  | none => cases h
  | some (_, [], _) => cases h
  | some (tb0, (id, ds) :: below, stopb) =>
    refine ⟨id, ds, below, stopb, ?_⟩
    simp only [closeBlock] at h
    cases stopb with
    | true =>
      cases h
      exact ⟨rfl, rfl⟩
    | false =>
      simp only [Bool.false_eq_true, if_false] at h ⊢
      split at h
      · cases h
      · rename_i ex0 hex
        cases h
        exact ⟨rfl, hex⟩

/-- the conclusion of `sim_stmts` and, written out, of `sim_stmt`, for a statement (list) compiled
to `(_, fr', stop)` under the stack `(id, _) :: rest`, with source result `rS` and code result `rT`:
`rT` is `settle` of `rS`; when the source runs to its end, the top frame holds what it registered -/
abbrev SimOut (fuel : Nat) (id : Option Nat) (rest fr' : List Frame) (stop : Bool)
    (rS : Sig × List Reg × St) (rT : Sig × St) : Prop :=
  SimRes id (rest.map (toR fuel)) rS rT ∧
    (rS.1 = .normal →
      ∃ ds', fr' = (id, ds') :: rest ∧ rS.2.1 = ds'.map (runner fuel) ∧ (∀ b ∈ ds', Closed b) ∧
        stop = false)

section
variable {fuel : Nat} {emit : Emit} (hE : EmitOK fuel emit) {body : Stmts} (label : Option Nat)
  (below : List Frame) {tb ex : Ts} (hF : FramesClosed below)
  (hcl : closeBlock emit (compileStmts emit body ((label, []) :: below)) = some (tb, ex))
  (ih : ∀ st tb frb stopb, compileStmts emit body ((label, []) :: below) = some (tb, frb, stopb) →
    SimOut fuel label below frb stopb (execStmtsS fuel body [] st) (execTs fuel tb st))
include hE hF hcl ih

/-- one lemma for every block activation: blocks, `if` bodies, loop conditions and bodies,
deferred bodies and the function body -/
theorem closeBlock_sim (st : St) :
    execTs fuel tb st = settle ((label, (execStmtsS fuel body [] st).2.1) :: below.map (toR fuel))
        ((execStmtsS fuel body [] st).1, (execStmtsS fuel body [] st).2.2) ∧
      ((execStmtsS fuel body [] st).1 = .normal →
        ∀ st', execTs fuel ex st' = (.normal, runRegs (execStmtsS fuel body [] st).2.1 st')) := by
  obtain ⟨id, ds, below', stopb, hcb, hex⟩ := closeBlock_some hcl
  obtain ⟨h1, h2⟩ := ih st _ _ _ hcb
  refine ⟨simRes_iff.1 h1, fun hn st' => ?_⟩
  obtain ⟨ds', hfr, hregs, hcl', rfl⟩ := h2 hn
  cases hfr
  exact hregs ▸ emitDefers_ok hE below hF _ ex st' hcl' hex

theorem blockT_sim (st : St) :
    blockT fuel tb ex st = settle ((label, []) :: below.map (toR fuel)) (execBlockS fuel body st) := by
  obtain ⟨h1, h2⟩ := closeBlock_sim hE label below hF hcl ih st
  rw [blockT, execBlockS_eq, h1]
  revert h2
  rcases execStmtsS fuel body [] st with ⟨sig, regs, s⟩
  intro h2
  cases sig with
  | normal => exact h2 rfl s
  | brk l => exact settle_cons_jump (by simp)
  | cont l => exact settle_cons_jump (by simp)

theorem condT_sim (st : St) :
    condT fuel tb ex st =
      ((condS fuel body st).1, settle ((label, []) :: below.map (toR fuel)) (condS fuel body st).2) := by
  obtain ⟨h1, h2⟩ := closeBlock_sim hE label below hF hcl ih st
  rw [condT, condS, h1]
  revert h2
  rcases execStmtsS fuel body [] st with ⟨sig, regs, s⟩
  intro h2
  cases sig with
  | normal => exact congrArg (Prod.mk _) (h2 rfl _)
  | brk l => exact congrArg (Prod.mk false) (settle_cons_jump (by simp))
  | cont l => exact congrArg (Prod.mk false) (settle_cons_jump (by simp))

end

theorem map_toR_cons (fuel : Nat) (id : Option Nat) (ds : List Stmts) (rest : List Frame) :
    ((id, ds) :: rest).map (toR fuel) = (id, ds.map (runner fuel)) :: rest.map (toR fuel) := rfl

theorem toR_mk (fuel : Nat) (id : Option Nat) (ds : List Stmts) :
    toR fuel (id, ds) = (id, ds.map (runner fuel)) := rfl

theorem simOut_keep {fuel : Nat} {s : Stmt} {id : Option Nat} {ds : List Stmts} {rest : List Frame} {ts : Ts}
    {st : St} (hF : FramesClosed ((id, ds) :: rest)) {r : Sig × St} {stop : Bool}
    (hS : execS fuel s (ds.map (runner fuel)) st = keep (ds.map (runner fuel)) r)
    (hT : execTs fuel ts st = settle ((id, ds.map (runner fuel)) :: rest.map (toR fuel)) r)
    (hs : r.1 = .normal → stop = false) :
    SimOut fuel id rest ((id, ds) :: rest) stop (execS fuel s (ds.map (runner fuel)) st)
      (execTs fuel ts st) := by
  rw [hS]
  exact ⟨simRes_iff.2 hT, fun hn => ⟨ds, rfl, rfl, Bodies.head hF, hs hn⟩⟩

theorem jump_sim {fuel : Nat} {emit : Emit} (hE : EmitOK fuel emit) {l : Nat} {fr : List Frame} {code : Ts}
    (hF : FramesClosed fr) (hd : defersUpTo emit l fr = some code) (st : St) :
    (andThen (execTs fuel code st) fun st' => (.brk l, st')) = settle (fr.map (toR fuel)) (.brk l, st) ∧
    (andThen (execTs fuel code st) fun st' => (.cont l, st')) = settle (fr.map (toR fuel)) (.cont l, st) := by
  rw [defersUpTo_ok hE l fr code st hF hd]
  exact ⟨rfl, rfl⟩

mutual
theorem sim_stmt (fuel : Nat) (emit : Emit) (hE : EmitOK fuel emit) : (s : Stmt) →
    ∀ ctx id ds rest ts fr' stop st,
    contScopedStmt s ctx = true → FramesClosed ((id, ds) :: rest) →
    compileStmt emit s ((id, ds) :: rest) = some (ts, fr', stop) →
    SimRes id (rest.map (toR fuel)) (execS fuel s (ds.map (runner fuel)) st) (execTs fuel ts st) ∧
      ((execS fuel s (ds.map (runner fuel)) st).1 = .normal →
        ∃ ds', fr' = (id, ds') :: rest ∧
          (execS fuel s (ds.map (runner fuel)) st).2.1 = ds'.map (runner fuel) ∧
          (∀ b ∈ ds', Closed b) ∧ stop = false)
  | .print c => by
    intro ctx id ds rest ts fr' stop st _ hF hc
    rw [compileStmt] at hc
    cases hc
    refine simOut_keep hF (r := (.normal, st.emit c)) ?_ ?_ fun _ => rfl
    · rw [execS]
      rfl
    · simp [execTs, execT]
  | .defer b => by
    intro ctx id ds rest ts fr' stop st hw hF hc
    rw [compileStmt] at hc
    cases hc
    rw [execS]
    have hds : ∀ b' ∈ b :: ds, Closed b' := List.forall_mem_cons.2 ⟨hw, Bodies.head hF⟩
    exact ⟨simRes_iff.2 (by simp [execTs]), fun _ => ⟨b :: ds, rfl, rfl, hds, rfl⟩⟩
  | .brk l => by
    intro ctx id ds rest ts fr' stop st _ hF hc
    simp only [compileStmt, Option.map_eq_some_iff] at hc
    obtain ⟨code, hd, hc⟩ := hc
    cases hc
    refine simOut_keep hF (r := (.brk l, st)) ?_ ?_ (by simp)
    · rw [execS]
      rfl
    · rw [execTs_single, execT_jump]
      exact (jump_sim hE hF hd st).1
  | .cont l => by
    intro ctx id ds rest ts fr' stop st _ hF hc
    simp only [compileStmt, Option.map_eq_some_iff] at hc
    obtain ⟨code, hd, hc⟩ := hc
    cases hc
    refine simOut_keep hF (r := (.cont l, st)) ?_ ?_ (by simp)
    · rw [execS]
      rfl
    · rw [execTs_single, execT_jump]
      exact (jump_sim hE hF hd st).2
  | .tryS l => by
    intro ctx id ds rest ts fr' stop st _ hF hc
    simp only [compileStmt, Option.map_eq_some_iff] at hc
    obtain ⟨code, hd, hc⟩ := hc
    cases hc
    refine simOut_keep hF (execS_tryS ..) ?_ fun _ => rfl
    rw [execTs_single, execT_tryT]
    exact ifD_settle (fun st1 => (jump_sim hE hF hd st1).1) st
  | .block label body => by
    intro ctx id ds rest ts fr' stop st hw hF hc
    simp only [compileStmt] at hc
    split at hc
    · cases hc
    rename_i tb ex hcl
    cases hc
    refine simOut_keep hF (execS_block ..) ?_ fun _ => rfl
    rw [execTs_single, execT_block,
      blockT_sim hE _ _ hF hcl (sim_stmts fuel emit hE body _ label [] _ hw (Bodies.push hF label))]
    exact catchBrk_settle (block_no_cont hw)
  | .ifS body => by
    intro ctx id ds rest ts fr' stop st hw hF hc
    simp only [compileStmt] at hc
    split at hc
    · cases hc
    rename_i tb ex hcl
    cases hc
    refine simOut_keep hF (execS_ifS ..) ?_ fun _ => rfl
    rw [execTs_single, execT_ifT]
    refine ifD_settle (fun st1 => ?_) st
    rw [blockT_sim hE _ _ hF hcl (sim_stmts fuel emit hE body _ none [] _ hw (Bodies.push hF none))]
    exact settle_cons_none ..
  | .loop label body => by
    intro ctx id ds rest ts fr' stop st hw hF hc
    simp only [compileStmt] at hc
    split at hc
    · cases hc
    rename_i tb ex hcl
    cases hc
    refine simOut_keep hF (execS_loop ..) ?_ fun _ => rfl
    have hFl := Bodies.push hF (some label)
    rw [execTs_single, execT_loop]
    refine iter_settle (loopStep_settle label (((id, ds) :: rest).map (toR fuel))
      (fun st1 => ?_)
      (blockT_sim hE none ((some label, []) :: (id, ds) :: rest) hFl hcl
        (sim_stmts fuel emit hE body _ none [] _ hw (Bodies.push hFl none)))) fuel st
    rw [condT_nil, condS_nil]
    rfl
  | .loopC label cond body => by
    intro ctx id ds rest ts fr' stop st hw hF hc
    simp only [compileStmt] at hc
    split at hc
    · cases hc
    rename_i tc exc hclc
    split at hc
    · cases hc
    rename_i tb ex hcl
    cases hc
    simp only [contScopedStmt, Bool.and_eq_true] at hw
    refine simOut_keep hF (execS_loopC ..) ?_ fun _ => rfl
    have hFl := Bodies.push hF (some label)
    rw [execTs_single, execT_loopC]
    exact iter_settle (loopStep_settle label (((id, ds) :: rest).map (toR fuel))
      (condT_sim hE none ((some label, []) :: (id, ds) :: rest) hFl hclc
        (sim_stmts fuel emit hE cond _ none [] _ hw.1 (Bodies.push hFl none)))
      (blockT_sim hE none ((some label, []) :: (id, ds) :: rest) hFl hcl
        (sim_stmts fuel emit hE body _ none [] _ hw.2 (Bodies.push hFl none)))) fuel st
theorem sim_stmts (fuel : Nat) (emit : Emit) (hE : EmitOK fuel emit) : (ss : Stmts) →
    ∀ ctx id ds rest, contScoped ss ctx = true → FramesClosed ((id, ds) :: rest) →
    ∀ st ts fr' stop, compileStmts emit ss ((id, ds) :: rest) = some (ts, fr', stop) →
    SimOut fuel id rest fr' stop (execStmtsS fuel ss (ds.map (runner fuel)) st) (execTs fuel ts st)
  | .nil => by
    intro ctx id ds rest _ hF st ts fr' stop hc
    rw [compileStmts] at hc
    cases hc
    rw [execStmtsS]
    exact ⟨simRes_iff.2 (by simp [execTs]), fun _ => ⟨ds, rfl, rfl, Bodies.head hF, rfl⟩⟩
  | .cons s r => by
    intro ctx id ds rest hw hF st ts fr' stop hc
    simp only [contScoped, Bool.and_eq_true] at hw
    simp only [compileStmts] at hc
    split at hc
    · cases hc
    rename_i ts1 fr1 stop1 hcs
    obtain ⟨h1, h2⟩ := sim_stmt fuel emit hE s ctx id ds rest ts1 fr1 stop1 st hw.1 hF hcs
    have h1 := simRes_iff.1 h1
    rw [execStmtsS_cons]
    by_cases hn : (execS fuel s (ds.map (runner fuel)) st).1 = .normal
    · obtain ⟨ds1, rfl, hregs, hcl1, rfl⟩ := h2 hn
      simp only [Bool.false_eq_true, if_false] at hc
      split at hc
      · cases hc
      rename_i tr fr2 stop2 hcr
      cases hc
      rw [hn] at h1
      rw [if_pos hn, execTs_append, h1, hregs]
      exact sim_stmts fuel emit hE r ctx id ds1 rest hw.2 (Bodies.cons hcl1 (Bodies.tail hF)) _ tr _ _ hcr
    · -- the jump ends the list on both sides, whether or not the compiler saw it (`stop1`)
      have hts : execTs fuel ts st = execTs fuel ts1 st := by
        split at hc
        · cases hc
          rfl
        · split at hc
          · cases hc
          · cases hc
            rw [execTs_append, h1]
            exact andThen_jump hn
      rw [if_neg hn, hts]
      exact ⟨simRes_iff.2 h1, fun h => absurd h hn⟩
end

/-- the knot: `sim_stmts` assumes `EmitOK` of the function that compiles deferred bodies, and
that function is `sim_stmts` one re-entry level down -/
theorem compileDeferred_ok (fuel : Nat) : ∀ n, EmitOK fuel (compileDeferred n)
  | 0 => by
    intro b fr tb _ _ h
    cases h
  | n + 1 => by
    intro b fr t hb hF h st
    simp only [compileDeferred] at h
    split at h
    · cases h
    rename_i tb ex hcl
    cases h
    -- `settle` is the identity only on `normal`, which is how a closed body ends
    have hn := closed_block_normal fuel b hb st
    rw [execTs_single, execT_block, blockT_sim (compileDeferred_ok fuel n) _ _ hF hcl
      (sim_stmts fuel _ (compileDeferred_ok fuel n) b [] none [] fr (wellScoped_contScoped b [] hb)
        (Bodies.push hF none)), runner]
    generalize execBlockS fuel b st = r at hn ⊢
    obtain ⟨sig, s⟩ := r
    cases hn
    rfl

end CapyV.Defer
