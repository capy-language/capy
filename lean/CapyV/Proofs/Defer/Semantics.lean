import CapyV.Spec.Defer
/-! For C03 (defer unwinding, deferred expressions are blocks): the lemmas of `St.emits` (for the
atomic corollary), label scoping, both semantics restated through common combinators, which signals
can leave a construct, and `Bodies` (a property of every deferred body on a defer stack). -/
namespace CapyV.Defer

@[simp] theorem St.emits_nil (st : St) : st.emits [] = st := rfl

@[simp] theorem St.emits_cons (st : St) (c : Nat) (cs : List Nat) :
    st.emits (c :: cs) = (st.emit c).emits cs := rfl

theorem St.emits_append (st : St) (a b : List Nat) :
    st.emits (a ++ b) = (st.emits a).emits b := by
  simp [St.emits, List.foldl_append]

theorem St.emits_trace (cs : List Nat) : ∀ st : St, (st.emits cs).trace = cs.reverse ++ st.trace := by
  induction cs with
  | nil =>
    intro st
    rfl
  | cons c cs ih =>
    intro st
    simp [ih, St.emit]

theorem St.emits_oracle (cs : List Nat) : ∀ st : St, (st.emits cs).oracle = st.oracle := by
  induction cs with
  | nil =>
    intro st
    rfl
  | cons c cs ih =>
    intro st
    simp [ih, St.emit]

/-- context: the enclosing *labelled* constructs, innermost first; `true` marks a loop -/
abbrev Ctx := List (Nat × Bool)

/-- the innermost enclosing construct labelled `l` (`some true` = a loop, `some false` = a block) -/
def lookupLabel (l : Nat) : Ctx → Option Bool
  | [] => none
  | (l', isLoop) :: rest => if l' = l then some isLoop else lookupLabel l rest

def pushLabel (label : Option Nat) (ctx : Ctx) : Ctx :=
  match label with
  | some l => (l, false) :: ctx
  | none => ctx

mutual
/-- What HIR label resolution guarantees (`crates/hir/src/body.rs`, `resolve_last_label` /
`resolve_first_label`): every `brk l` / `tryS l` is inside a construct labelled `l`; for every
`cont l` the innermost enclosing construct labelled `l` is a loop; and label resolution never
passes a `defer` boundary (`ScopeKind::Defer`): inside a deferred body every jump targets a
loop / labelled block INSIDE that body, so resolution starts afresh there. The condition block
of a `loopC` is inside its loop: its jumps may name the loop's label and the enclosing labels,
as those of the body. (A `tryS l` inside a deferred body that targets a label inside the body is
accepted here although Capy cannot write it: the predicate is a superset of what HIR accepts.) -/
def wellScopedStmt : Stmt → Ctx → Bool
  | .print _, _ => true
  | .defer b, _ => wellScoped b []
  | .block label body, ctx => wellScoped body (pushLabel label ctx)
  | .loop label body, ctx => wellScoped body ((label, true) :: ctx)
  | .loopC label cond body, ctx =>
    wellScoped cond ((label, true) :: ctx) && wellScoped body ((label, true) :: ctx)
  | .ifS body, ctx => wellScoped body ctx
  | .brk l, ctx => (lookupLabel l ctx).isSome
  | .cont l, ctx => lookupLabel l ctx == some true
  | .tryS l, ctx => (lookupLabel l ctx).isSome
def wellScoped : Stmts → Ctx → Bool
  | .nil, _ => true
  | .cons s rest, ctx => wellScopedStmt s ctx && wellScoped rest ctx
end

mutual
/-- The part of `wellScoped` the proof needs: a deferred body is fully closed (`wellScoped`
on its own), and outside deferred bodies for no `cont l` is the innermost enclosing construct
labelled `l` a plain block. Nothing is demanded of `brk` / `tryS` outside deferred bodies. -/
def contScopedStmt : Stmt → Ctx → Bool
  | .print _, _ => true
  | .defer b, _ => wellScoped b []
  | .block label body, ctx => contScoped body (pushLabel label ctx)
  | .loop label body, ctx => contScoped body ((label, true) :: ctx)
  | .loopC label cond body, ctx =>
    contScoped cond ((label, true) :: ctx) && contScoped body ((label, true) :: ctx)
  | .ifS body, ctx => contScoped body ctx
  | .brk _, _ => true
  | .cont l, ctx => lookupLabel l ctx != some false
  | .tryS _, _ => true
def contScoped : Stmts → Ctx → Bool
  | .nil, _ => true
  | .cons s rest, ctx => contScopedStmt s ctx && contScoped rest ctx
end

mutual
theorem wellScopedStmt_contScoped : (s : Stmt) → ∀ ctx, wellScopedStmt s ctx = true → contScopedStmt s ctx = true
  | .print _ | .brk _ | .tryS _ => fun _ _ => rfl
  | .defer _ => fun _ h => h
  | .block _ body | .loop _ body | .ifS body => fun _ h => wellScoped_contScoped body _ h
  | .loopC _ cond body => fun _ h =>
    have h := Bool.and_eq_true_iff.1 h
    Bool.and_eq_true_iff.2 ⟨wellScoped_contScoped cond _ h.1, wellScoped_contScoped body _ h.2⟩
  | .cont l => fun ctx h => by
    simp only [wellScopedStmt, beq_iff_eq] at h
    simp [contScopedStmt, h]
theorem wellScoped_contScoped : (ss : Stmts) → ∀ ctx, wellScoped ss ctx = true → contScoped ss ctx = true
  | .nil => fun _ _ => rfl
  | .cons s rest => fun ctx h =>
    have h := Bool.and_eq_true_iff.1 h
    Bool.and_eq_true_iff.2 ⟨wellScopedStmt_contScoped s ctx h.1, wellScoped_contScoped rest ctx h.2⟩
end

/-- a deferred body all of whose jumps stay inside it -/
abbrev Closed (b : Stmts) : Prop := wellScoped b [] = true

theorem lookupLabel_push_ne (l : Nat) (label : Option Nat) (ctx : Ctx) (h : ¬ label = some l) :
    lookupLabel l (pushLabel label ctx) = lookupLabel l ctx := by
  cases label with
  | none => rfl
  | some lab =>
    have : ¬ lab = l := fun e => h (by rw [e])
    simp [pushLabel, lookupLabel, this]

theorem lookupLabel_push_eq (l : Nat) (ctx : Ctx) :
    lookupLabel l (pushLabel (some l) ctx) = some false := by
  simp [pushLabel, lookupLabel]

theorem execBlockS_eq (fuel : Nat) (body : Stmts) (st : St) :
    execBlockS fuel body st =
      ((execStmtsS fuel body [] st).1,
        runRegs (execStmtsS fuel body [] st).2.1 (execStmtsS fuel body [] st).2.2) := by
  rw [execBlockS]

@[simp] theorem runRegs_nil (st : St) : runRegs [] st = st := rfl

@[simp] theorem runRegs_cons (r : Reg) (rs : List Reg) (st : St) :
    runRegs (r :: rs) st = runRegs rs (r st) := rfl

theorem runRegs_append (a b : List Reg) (st : St) :
    runRegs (a ++ b) st = runRegs b (runRegs a st) := by
  simp [runRegs, List.foldl_append]

@[simp] theorem catchBrk_normal (label : Option Nat) (st : St) :
    catchBrk label (.normal, st) = (.normal, st) := rfl
@[simp] theorem catchBrk_cont (label : Option Nat) (l : Nat) (st : St) :
    catchBrk label (.cont l, st) = (.cont l, st) := rfl
@[simp] theorem catchBrk_brk (label : Option Nat) (l : Nat) (st : St) :
    catchBrk label (.brk l, st) = if label = some l then (.normal, st) else (.brk l, st) := rfl

theorem execBlockS_sig (fuel : Nat) (body : Stmts) (st : St) :
    (execBlockS fuel body st).1 = (execStmtsS fuel body [] st).1 := by rw [execBlockS_eq]

theorem execStmtsS_cons (fuel : Nat) (s : Stmt) (rest : Stmts) (regs : List Reg) (st : St) :
    execStmtsS fuel (.cons s rest) regs st =
      if (execS fuel s regs st).1 = .normal then
        execStmtsS fuel rest (execS fuel s regs st).2.1 (execS fuel s regs st).2.2
      else execS fuel s regs st := by
  rw [execStmtsS]
  rcases execS fuel s regs st with ⟨sig, regs', st'⟩
  cases sig <;> rfl

/-! `execS` and `execT` are written with nested `match`es; the lemmas `execS_*` / `execT_*` restate
every construct through `catchBrk`, `ifD`, `andThen`, `iter` and `loopStep`, so that a fact about
a construct follows from the corresponding fact about its combinator. -/

/-- the result of a statement that registers nothing -/
def keep (regs : List Reg) (r : Sig × St) : Sig × List Reg × St := (r.1, regs, r.2)

/-- `if <decision> { k }` -/
def ifD (k : St → Sig × St) (st : St) : Sig × St :=
  match st.decide with
  | (false, st1) => (.normal, st1)
  | (true, st1) => k st1

def andThen (r : Sig × St) (k : St → Sig × St) : Sig × St :=
  match r with
  | (.normal, st) => k st
  | r => r

@[simp] theorem andThen_normal (st : St) (k : St → Sig × St) : andThen (.normal, st) k = k st := rfl

theorem andThen_jump {r : Sig × St} {k : St → Sig × St} (h : r.1 ≠ .normal) : andThen r k = r := by
  obtain ⟨sig, st⟩ := r
  cases sig <;> first | exact absurd rfl h | rfl

/-- the condition block of a `loopC` in the structural semantics: a block activation whose
tail expression is a decision (drawn before the block's deferred bodies run). The decision is
reported as `false` when the block is left by a jump (`loopStep` ignores it then). -/
def condS (fuel : Nat) (cond : Stmts) (st : St) : Bool × Sig × St :=
  match execStmtsS fuel cond [] st with
  | (.normal, cregs, st0) => (st0.decide.1, .normal, runRegs cregs st0.decide.2)
  | (sig, cregs, st0) => (false, sig, runRegs cregs st0)

/-- one iteration of a loop: `c` runs the condition block, `b` the body block -/
def loopStep (label : Nat) (c : St → Bool × Sig × St) (b : St → Sig × St) : St → Option Sig × St :=
  fun st =>
    match c st with
    | (false, .normal, st1) => (some .normal, st1)
    | (true, .normal, st1) => loopNext label (b st1)
    | (_, r) => loopNext label r

theorem condS_sig (fuel : Nat) (cond : Stmts) (st : St) :
    (condS fuel cond st).2.1 = (execStmtsS fuel cond [] st).1 := by
  simp only [condS]
  rcases execStmtsS fuel cond [] st with ⟨sig, cregs, st0⟩
  cases sig <;> rfl

theorem condS_nil (fuel : Nat) (st : St) : condS fuel .nil st = (st.decide.1, .normal, st.decide.2) := by
  simp [condS, execStmtsS]

theorem iter_congr {f g : St → Option Sig × St} (h : ∀ st, f st = g st) (n : Nat) (st : St) :
    iter f n st = iter g n st := by
  have : f = g := funext h
  rw [this]

theorem execS_block (fuel : Nat) (label : Option Nat) (body : Stmts) (regs : List Reg) (st : St) :
    execS fuel (.block label body) regs st = keep regs (catchBrk label (execBlockS fuel body st)) := by
  rw [execS]
  rcases execBlockS fuel body st with ⟨sig, st'⟩
  cases sig <;> simp only [catchBrk, keep] <;> split <;> rfl

theorem execS_ifS (fuel : Nat) (body : Stmts) (regs : List Reg) (st : St) :
    execS fuel (.ifS body) regs st = keep regs (ifD (execBlockS fuel body) st) := by
  rw [execS, ifD]
  rcases st.decide with ⟨b, st1⟩
  cases b <;> rfl

theorem execS_tryS (fuel l : Nat) (regs : List Reg) (st : St) :
    execS fuel (.tryS l) regs st = keep regs (ifD (fun st1 => (.brk l, st1)) st) := by
  rw [execS, ifD]
  rcases st.decide with ⟨b, st1⟩
  cases b <;> rfl

theorem execS_loopC (fuel label : Nat) (cond body : Stmts) (regs : List Reg) (st : St) :
    execS fuel (.loopC label cond body) regs st =
      keep regs (iter (loopStep label (condS fuel cond) (execBlockS fuel body)) fuel st) := by
  rw [execS, iter_congr (g := loopStep label (condS fuel cond) (execBlockS fuel body))]
  · rfl
  intro st0
  simp only [loopStep, condS]
  rcases execStmtsS fuel cond [] st0 with ⟨sig, cregs, st1⟩
  cases sig with
  | normal =>
    simp only
    rcases st1.decide with ⟨d, st2⟩
    cases d
    · rfl
    · simp only
      rcases execBlockS fuel body (runRegs cregs st2) with ⟨sigB, st'⟩
      cases sigB <;> rfl
  | brk l => rfl
  | cont l => rfl

theorem execS_loop (fuel label : Nat) (body : Stmts) (regs : List Reg) (st : St) :
    execS fuel (.loop label body) regs st =
      keep regs (iter (loopStep label (condS fuel .nil) (execBlockS fuel body)) fuel st) := by
  rw [execS, iter_congr (g := loopStep label (condS fuel .nil) (execBlockS fuel body))]
  · rfl
  intro st0
  simp only [loopStep, condS_nil]
  rcases st0.decide with ⟨b, st1⟩
  cases b
  · rfl
  · simp only
    rcases execBlockS fuel body st1 with ⟨sig, st'⟩
    cases sig <;> rfl

theorem iter_sig_ind {P : Sig → Prop} (step : St → Option Sig × St) (h0 : P .normal)
    (hs : ∀ st sig st', step st = (some sig, st') → P sig) : ∀ n st, P (iter step n st).1
  | 0, st => by simpa [iter] using h0
  | n + 1, st => by
    simp only [iter]
    rcases h : step st with ⟨o, st'⟩
    cases o with
    | none => simpa using iter_sig_ind step h0 hs n st'
    | some sig => simpa using hs st sig st' h

/-- a demand on the signal that leaves a construct whose enclosing labels are `ctx`: `B` / `C`
say what the target of a `brk` / `cont` must resolve to. The proofs use two instances: `Esc` below
(`esc_iff`) and "no `cont` is aimed at a plain block" (`noCont_iff`). -/
def SigOK (B C : Option Bool → Prop) (ctx : Ctx) : Sig → Prop
  | .normal => True
  | .brk l => B (lookupLabel l ctx)
  | .cont l => C (lookupLabel l ctx)

section
variable {B C : Option Bool → Prop} {ctx : Ctx}

/-- `hC`: a `cont` cannot be aimed at a block -/
theorem SigOK.catchBrk (hC : ¬ C (some false)) {label : Option Nat} {r : Sig × St}
    (h : SigOK B C (pushLabel label ctx) r.1) : SigOK B C ctx (catchBrk label r).1 := by
  obtain ⟨sig, st⟩ := r
  cases sig with
  | normal => trivial
  | brk l =>
    rw [catchBrk_brk]
    split
    · trivial
    · rename_i hl
      rwa [SigOK, lookupLabel_push_ne l label ctx hl] at h
  | cont l =>
    by_cases hl : label = some l
    · subst hl
      rw [SigOK, lookupLabel_push_eq] at h
      exact absurd h hC
    · rwa [SigOK, lookupLabel_push_ne l label ctx hl] at h

theorem SigOK.loopNext {label : Nat} {r : Sig × St} (h : SigOK B C ((label, true) :: ctx) r.1) {sig : Sig}
    (hs : (loopNext label r).1 = some sig) : SigOK B C ctx sig := by
  obtain ⟨sig0, st⟩ := r
  cases sig0 with
  | normal => cases hs
  | brk l =>
    simp only [Defer.loopNext] at hs
    split at hs
    · cases hs
      trivial
    · rename_i hl
      cases hs
      rwa [SigOK, lookupLabel, if_neg (Ne.symm hl)] at h
  | cont l =>
    simp only [Defer.loopNext] at hs
    split at hs
    · cases hs
    · rename_i hl
      cases hs
      rwa [SigOK, lookupLabel, if_neg (Ne.symm hl)] at h

theorem SigOK.ifD {k : St → Sig × St} (h : ∀ st, SigOK B C ctx (k st).1) (st : St) :
    SigOK B C ctx (ifD k st).1 := by
  rw [Defer.ifD]
  rcases st.decide with ⟨b, st1⟩
  cases b
  · trivial
  · exact h st1

theorem SigOK.loop {label : Nat} {c : St → Bool × Sig × St} {b : St → Sig × St}
    (hc : ∀ st, SigOK B C ((label, true) :: ctx) (c st).2.1)
    (hb : ∀ st, SigOK B C ((label, true) :: ctx) (b st).1) (n : Nat) (st : St) :
    SigOK B C ctx (iter (loopStep label c b) n st).1 := by
  refine iter_sig_ind _ trivial (fun st sig st' hstep => ?_) n st
  have hc := hc st
  simp only [loopStep] at hstep
  generalize c st = r at hstep hc
  obtain ⟨d, sigC, st1⟩ := r
  cases sigC with
  | normal =>
    cases d
    · cases hstep
      trivial
    · exact (hb st1).loopNext (congrArg Prod.fst hstep)
  | brk l => cases d <;> exact hc.loopNext (congrArg Prod.fst hstep)
  | cont l => cases d <;> exact hc.loopNext (congrArg Prod.fst hstep)

end

/-- what a signal that escapes a statement well-scoped under `ctx` can be: a `brk` aimed at a
construct of the context, a `cont` aimed at a loop of the context -/
def Esc (ctx : Ctx) : Sig → Prop
  | .normal => True
  | .brk l => (lookupLabel l ctx).isSome = true
  | .cont l => lookupLabel l ctx = some true

/-- holds by unfolding; stating it fixes `B` and `C` for the closure lemmas -/
theorem esc_iff {ctx : Ctx} {sig : Sig} :
    Esc ctx sig ↔ SigOK (·.isSome = true) (· = some true) ctx sig := Iff.rfl

theorem noCont_iff {ctx : Ctx} {sig : Sig} :
    (∀ l, sig = .cont l → lookupLabel l ctx ≠ some false) ↔
      SigOK (fun _ => True) (· ≠ some false) ctx sig := by
  cases sig <;> simp [SigOK]

mutual
theorem esc_stmt (fuel : Nat) : (s : Stmt) → ∀ ctx regs st, wellScopedStmt s ctx = true →
    Esc ctx (execS fuel s regs st).1
  | .print c | .defer b => by
    intro ctx regs st _
    rw [execS]
    trivial
  | .brk l | .cont l => by
    intro ctx regs st h
    simpa [execS, Esc, wellScopedStmt] using h
  | .tryS l => by
    intro ctx regs st h
    rw [execS_tryS]
    exact esc_iff.2 (SigOK.ifD (fun _ => by simpa [wellScopedStmt, SigOK] using h) st)
  | .block label body => by
    intro ctx regs st h
    rw [execS_block]
    exact esc_iff.2 (SigOK.catchBrk (by simp)
      (execBlockS_sig .. ▸ esc_stmts fuel body (pushLabel label ctx) [] st h))
  | .ifS body => by
    intro ctx regs st h
    rw [execS_ifS]
    exact esc_iff.2 (SigOK.ifD (fun st1 => execBlockS_sig .. ▸ esc_stmts fuel body ctx [] st1 h) st)
  | .loop label body => by
    intro ctx regs st h
    rw [execS_loop]
    exact esc_iff.2 (SigOK.loop
      (fun st1 => by
        rw [condS_nil]
        trivial)
      (fun st1 => execBlockS_sig .. ▸ esc_stmts fuel body _ [] st1 h) fuel st)
  | .loopC label cond body => by
    intro ctx regs st h
    simp only [wellScopedStmt, Bool.and_eq_true] at h
    rw [execS_loopC]
    exact esc_iff.2 (SigOK.loop
      (fun st1 => condS_sig .. ▸ esc_stmts fuel cond _ [] st1 h.1)
      (fun st1 => execBlockS_sig .. ▸ esc_stmts fuel body _ [] st1 h.2) fuel st)
theorem esc_stmts (fuel : Nat) : (ss : Stmts) → ∀ ctx regs st, wellScoped ss ctx = true →
    Esc ctx (execStmtsS fuel ss regs st).1
  | .nil => by
    intro ctx regs st _
    rw [execStmtsS]
    trivial
  | .cons s rest => by
    intro ctx regs st hw
    simp only [wellScoped, Bool.and_eq_true] at hw
    rw [execStmtsS_cons]
    split
    · exact esc_stmts fuel rest ctx _ _ hw.2
    · exact esc_stmt fuel s ctx regs st hw.1
end

theorem closed_block_normal (fuel : Nat) (b : Stmts) (hb : Closed b) (st : St) :
    (execBlockS fuel b st).1 = .normal := by
  have h := esc_stmts fuel b [] [] st hb
  rw [execBlockS_sig]
  generalize (execStmtsS fuel b [] st).1 = sig at h
  cases sig with
  | normal => rfl
  | brk l | cont l => cases h  -- `lookupLabel l [] = none`: no label resolves in the empty context

mutual
/-- a `cont l` that escapes a `contScoped` statement is not aimed at a plain block of the
context -/
theorem cont_escape_stmt (fuel : Nat) : (s : Stmt) → ∀ ctx regs st l, contScopedStmt s ctx = true →
    (execS fuel s regs st).1 = .cont l → lookupLabel l ctx ≠ some false
  | .print c | .defer b | .brk l' => by
    intro ctx regs st l _ h
    rw [execS] at h
    cases h
  | .cont l' => by
    intro ctx regs st l hw h
    rw [execS] at h
    cases h
    simpa [contScopedStmt] using hw
  | .tryS l' => by
    intro ctx regs st l _
    rw [execS_tryS]
    exact noCont_iff.2
      (SigOK.ifD (B := fun _ => True) (k := fun st1 => (.brk l', st1)) (fun _ => trivial) st) l
  | .block label body => by
    intro ctx regs st l hw
    rw [execS_block]
    exact noCont_iff.2 (SigOK.catchBrk (by simp)
      (execBlockS_sig .. ▸ cont_escape_stmts fuel body (pushLabel label ctx) [] st hw)) l
  | .ifS body => by
    intro ctx regs st l hw
    rw [execS_ifS]
    exact noCont_iff.2
      (SigOK.ifD (fun st1 => execBlockS_sig .. ▸ cont_escape_stmts fuel body ctx [] st1 hw) st) l
  | .loop label body => by
    intro ctx regs st l hw
    rw [execS_loop]
    exact noCont_iff.2 (SigOK.loop
      (fun st1 => by
        rw [condS_nil]
        trivial)
      (fun st1 => execBlockS_sig .. ▸ cont_escape_stmts fuel body _ [] st1 hw) fuel st) l
  | .loopC label cond body => by
    intro ctx regs st l hw
    simp only [contScopedStmt, Bool.and_eq_true] at hw
    rw [execS_loopC]
    exact noCont_iff.2 (SigOK.loop
      (fun st1 => condS_sig .. ▸ cont_escape_stmts fuel cond _ [] st1 hw.1)
      (fun st1 => execBlockS_sig .. ▸ cont_escape_stmts fuel body _ [] st1 hw.2) fuel st) l
/-- in the `SigOK` form its uses need; `noCont_iff` converts to the form of `cont_escape_stmt` -/
theorem cont_escape_stmts (fuel : Nat) : (ss : Stmts) → ∀ ctx regs st, contScoped ss ctx = true →
    SigOK (fun _ => True) (· ≠ some false) ctx (execStmtsS fuel ss regs st).1
  | .nil => by
    intro ctx regs st _
    rw [execStmtsS]
    trivial
  | .cons s rest => by
    intro ctx regs st hw
    simp only [contScoped, Bool.and_eq_true] at hw
    rw [execStmtsS_cons]
    split
    · exact cont_escape_stmts fuel rest ctx _ _ hw.2
    · exact noCont_iff.1 (cont_escape_stmt fuel s ctx regs st · hw.1)
end

theorem block_no_cont {fuel : Nat} {body : Stmts} {label : Option Nat} {ctx : Ctx} {st : St}
    (hw : contScoped body (pushLabel label ctx) = true) (l : Nat)
    (h : (execBlockS fuel body st).1 = .cont l) : label ≠ some l := by
  rintro rfl
  exact noCont_iff.2 (cont_escape_stmts fuel body _ [] st hw) l (by rwa [execBlockS_sig] at h)
    (lookupLabel_push_eq l ctx)

theorem execTs_append (fuel : Nat) : (a b : Ts) → ∀ st,
    execTs fuel (Ts.append a b) st = andThen (execTs fuel a st) (execTs fuel b)
  | .nil, b => fun st => by simp [Ts.append, execTs]
  | .cons t r, b => fun st => by
    simp only [Ts.append, execTs]
    rcases execT fuel t st with ⟨sig, st1⟩
    cases sig with
    | normal => exact execTs_append fuel r b st1
    | brk l => rfl
    | cont l => rfl

theorem execTs_single (fuel : Nat) (t : T) (st : St) :
    execTs fuel (.cons t .nil) st = execT fuel t st := by
  simp only [execTs]
  rcases h : execT fuel t st with ⟨sig, st1⟩
  cases sig <;> simp

/-- not yet a block: `execT_block` adds `catchBrk label`; `if` and loop bodies use it bare -/
def blockT (fuel : Nat) (tb ex : Ts) (st : St) : Sig × St :=
  andThen (execTs fuel tb st) (execTs fuel ex)

theorem execT_block (fuel : Nat) (label : Option Nat) (tb ex : Ts) (st : St) :
    execT fuel (.block label tb ex) st = catchBrk label (blockT fuel tb ex st) := by
  rw [execT, blockT]
  rcases execTs fuel tb st with ⟨sig, st'⟩
  cases sig <;> rfl

theorem execT_ifT (fuel : Nat) (tb ex : Ts) (st : St) :
    execT fuel (.ifT tb ex) st = ifD (blockT fuel tb ex) st := by
  rw [execT, ifD]
  rcases st.decide with ⟨b, st1⟩
  cases b
  · rfl
  · simp only [blockT]
    rcases execTs fuel tb st1 with ⟨sig, st'⟩
    cases sig <;> rfl

theorem execT_jump (fuel : Nat) (isCont : Bool) (l : Nat) (code : Ts) (st : St) :
    execT fuel (.jump isCont l code) st =
      andThen (execTs fuel code st) fun st' => (if isCont then .cont l else .brk l, st') := by
  rw [execT]
  rcases execTs fuel code st with ⟨sig, st'⟩
  cases sig <;> rfl

theorem execT_tryT (fuel l : Nat) (code : Ts) (st : St) :
    execT fuel (.tryT l code) st =
      ifD (fun st1 => andThen (execTs fuel code st1) fun st' => (.brk l, st')) st := by
  rw [execT, ifD]
  rcases st.decide with ⟨b, st1⟩
  cases b
  · rfl
  · simp only
    rcases execTs fuel code st1 with ⟨sig, st'⟩
    cases sig <;> rfl

/-- the condition block of a `loopC` in the generated code -/
def condT (fuel : Nat) (tc exc : Ts) (st : St) : Bool × Sig × St :=
  match execTs fuel tc st with
  | (.normal, st0) => (st0.decide.1, execTs fuel exc st0.decide.2)
  | r => (false, r)

theorem condT_nil (fuel : Nat) (st : St) :
    condT fuel .nil .nil st = (st.decide.1, .normal, st.decide.2) := by
  simp [condT, execTs]

theorem execT_loopC (fuel label : Nat) (tc exc tb ex : Ts) (st : St) :
    execT fuel (.loopC label tc exc tb ex) st =
      iter (loopStep label (condT fuel tc exc) (blockT fuel tb ex)) fuel st := by
  rw [execT, iter_congr (g := loopStep label (condT fuel tc exc) (blockT fuel tb ex))]
  intro st0
  simp only [loopStep, condT, blockT]
  rcases execTs fuel tc st0 with ⟨sig, st1⟩
  cases sig with
  | normal =>
    simp only
    rcases st1.decide with ⟨d, st2⟩
    simp only
    rcases execTs fuel exc st2 with ⟨sigE, st3⟩
    cases sigE with
    | normal =>
      cases d
      · rfl
      · simp only [if_true]
        rcases execTs fuel tb st3 with ⟨sigB, st'⟩
        cases sigB <;> rfl
    | brk l => cases d <;> rfl
    | cont l => cases d <;> rfl
  | brk l => rfl
  | cont l => rfl

theorem execT_loop (fuel label : Nat) (tb ex : Ts) (st : St) :
    execT fuel (.loop label tb ex) st =
      iter (loopStep label (condT fuel .nil .nil) (blockT fuel tb ex)) fuel st := by
  rw [execT, iter_congr (g := loopStep label (condT fuel .nil .nil) (blockT fuel tb ex))]
  intro st0
  simp only [loopStep, condT_nil, blockT]
  rcases st0.decide with ⟨b, st1⟩
  cases b
  · rfl
  · simp only
    rcases execTs fuel tb st1 with ⟨sig, st'⟩
    cases sig <;> rfl

def Bodies (P : Stmts → Prop) (fr : List Frame) : Prop := ∀ f ∈ fr, ∀ b ∈ f.2, P b

theorem Bodies.nil {P : Stmts → Prop} : Bodies P [] := fun _ h => nomatch h

theorem Bodies.cons {P : Stmts → Prop} {id : Option Nat} {ds : List Stmts} {fr : List Frame}
    (hd : ∀ b ∈ ds, P b) (h : Bodies P fr) : Bodies P ((id, ds) :: fr) := by
  intro f hf b hb
  rcases List.mem_cons.1 hf with rfl | hf
  · exact hd b hb
  · exact h f hf b hb

theorem Bodies.head {P : Stmts → Prop} {id : Option Nat} {ds : List Stmts} {fr : List Frame}
    (h : Bodies P ((id, ds) :: fr)) : ∀ b ∈ ds, P b :=
  fun b hb => h (id, ds) (List.mem_cons_self ..) b hb

theorem Bodies.tail {P : Stmts → Prop} {f : Frame} {fr : List Frame} (h : Bodies P (f :: fr)) : Bodies P fr :=
  fun g hg => h g (List.mem_cons_of_mem _ hg)

theorem Bodies.push {P : Stmts → Prop} {fr : List Frame} (h : Bodies P fr) (id : Option Nat) :
    Bodies P ((id, []) :: fr) :=
  Bodies.cons (fun _ h => nomatch h) h

end CapyV.Defer
