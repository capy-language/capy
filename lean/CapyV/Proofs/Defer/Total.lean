import CapyV.Proofs.Defer.Semantics
/-! Compilation succeeds: `tot_stmt` and `compileDeferred_total`. -/
namespace CapyV.Defer

/-- what `tot_stmt` assumes of the function that compiles deferred bodies; `compileDeferred_total`
discharges it -/
def EmitTotal (emit : Emit) (k : Nat) : Prop :=
  ∀ b fr, Closed b → deferDepth b < k → ∃ t, emit b fr = some t

def Covered (ctx : Ctx) (inner : List Frame) : Prop :=
  ∀ l, (lookupLabel l ctx).isSome = true → ∃ f ∈ inner, f.1 = some l

/-- `Bodies (fun b => Closed b ∧ deferDepth b < k) inner`, written out because the statement of
`tot_stmt` mentions it in this form -/
def Small (k : Nat) (inner : List Frame) : Prop :=
  ∀ f ∈ inner, ∀ b ∈ f.2, Closed b ∧ deferDepth b < k

theorem Covered.push_block {ctx : Ctx} {inner : List Frame} (label : Option Nat)
    (h : Covered ctx inner) : Covered (pushLabel label ctx) ((label, []) :: inner) := by
  intro l hl
  by_cases e : label = some l
  · exact ⟨(label, []), List.mem_cons_self .., e⟩
  · rw [lookupLabel_push_ne l label ctx e] at hl
    obtain ⟨f, hf, hfl⟩ := h l hl
    exact ⟨f, List.mem_cons_of_mem _ hf, hfl⟩

theorem Covered.push_loop {ctx : Ctx} {inner : List Frame} (label : Nat)
    (h : Covered ctx inner) :
    Covered ((label, true) :: ctx) ((none, []) :: (some label, []) :: inner) := by
  intro l hl
  by_cases e : label = l
  · exact ⟨(some label, []), by simp, by simp [e]⟩
  · simp only [lookupLabel, e, if_false] at hl
    obtain ⟨f, hf, hfl⟩ := h l hl
    exact ⟨f, List.mem_cons_of_mem _ (List.mem_cons_of_mem _ hf), hfl⟩

theorem emitDefers_total (emit : Emit) (k : Nat) (hT : EmitTotal emit k) (fr : List Frame) :
    ∀ ds : List Stmts, (∀ b ∈ ds, Closed b ∧ deferDepth b < k) → ∃ t, emitDefers emit ds fr = some t
  | [] => fun _ => ⟨_, rfl⟩
  | b :: ds => by
    intro h
    obtain ⟨hb1, hb2⟩ := h b (List.mem_cons_self ..)
    obtain ⟨tb, htb⟩ := hT b fr hb1 hb2
    obtain ⟨r, hr⟩ := emitDefers_total emit k hT fr ds (fun b' hb' => h b' (List.mem_cons_of_mem _ hb'))
    exact ⟨Ts.append tb r, by simp [emitDefers, htb, hr]⟩

/-- `run_defers_up_to` succeeds when it stops inside the part `pre` of the stack whose bodies
`emit` can compile (or when that part is the whole stack) -/
theorem defersUpTo_total (emit : Emit) (k : Nat) (hT : EmitTotal emit k) (l : Nat) (X : List Frame) :
    ∀ pre : List Frame, Small k pre → (X = [] ∨ ∃ f ∈ pre, f.1 = some l) →
    ∃ t, defersUpTo emit l (pre ++ X) = some t
  | [] => by
    intro _ h
    rcases h with rfl | ⟨f, hf, _⟩
    · exact ⟨_, rfl⟩
    · simp at hf
  | (id, ds) :: pre => by
    intro hS h
    obtain ⟨t, ht⟩ := emitDefers_total emit k hT ((id, ds) :: (pre ++ X)) ds (Bodies.head hS)
    show ∃ t, defersUpTo emit l ((id, ds) :: (pre ++ X)) = some t
    by_cases hid : id = some l
    · subst hid
      exact ⟨t, by simp [defersUpTo, ht]⟩
    · have h' : X = [] ∨ ∃ f ∈ pre, f.1 = some l := by
        rcases h with h | ⟨f, hf, hfl⟩
        · exact .inl h
        · rcases List.mem_cons.1 hf with rfl | hf
          · exact absurd hfl hid
          · exact .inr ⟨f, hf, hfl⟩
      obtain ⟨r, hr⟩ := defersUpTo_total emit k hT l X pre (Bodies.tail hS) h'
      exact ⟨Ts.append t r, by simp [defersUpTo, ht, hid, hr]⟩

theorem closeBlock_total (emit : Emit) (k : Nat) (hT : EmitTotal emit k) (tb : Ts)
    (label : Option Nat) (ds' : List Stmts) (below : List Frame) (stopb : Bool)
    (h : ∀ b ∈ ds', Closed b ∧ deferDepth b < k) :
    ∃ ex, closeBlock emit (some (tb, (label, ds') :: below, stopb)) = some (tb, ex) := by
  cases stopb
  · obtain ⟨ex, hex⟩ := emitDefers_total emit k hT below ds' h
    exact ⟨ex, by simp [closeBlock, hex]⟩
  · exact ⟨.nil, by simp [closeBlock]⟩

/-- `h` is the conclusion of `tot_stmts`, passed through as it stands (only `.head` of its `Small`
is used) -/
theorem closeBlock_of_tot_stmts {emit : Emit} {k : Nat} (hT : EmitTotal emit k) {body : Stmts}
    {label : Option Nat} {fr below : List Frame}
    (h : ∃ tb ds' stopb, compileStmts emit body ((label, []) :: fr) = some (tb, (label, ds') :: fr, stopb) ∧
      Small k ((label, ds') :: below)) :
    ∃ tb ex, closeBlock emit (compileStmts emit body ((label, []) :: fr)) = some (tb, ex) := by
  obtain ⟨tb, ds', stopb, hcb, hS⟩ := h
  obtain ⟨ex, hex⟩ := closeBlock_total emit k hT tb label ds' fr stopb (Bodies.head hS)
  exact ⟨tb, ex, hcb ▸ hex⟩

theorem Covered.retop {ctx : Ctx} {id : Option Nat} {ds ds' : List Stmts} {inner : List Frame}
    (h : Covered ctx ((id, ds) :: inner)) : Covered ctx ((id, ds') :: inner) := by
  intro l hl
  obtain ⟨f, hf, hfl⟩ := h l hl
  rcases List.mem_cons.1 hf with rfl | hf
  · exact ⟨_, List.mem_cons_self .., hfl⟩
  · exact ⟨f, List.mem_cons_of_mem _ hf, hfl⟩

mutual
/-- Compilation under the stack `(id, ds) :: inner ++ X` succeeds and changes only the top
frame's registrations. Either `X = []` (then a jump may unwind the whole stack) or the statement
is well scoped and every label of its context has a frame in `(id, ds) :: inner` (then a jump
never looks at `X`). `X` is the stack of the emission site under a deferred body's own frames
(`compileDeferred_total`); at program level it is `[]`. `contScopedStmt` serves the case `X = []`
(it gives `Closed b` at `defer b`); the right disjunct implies it. -/
theorem tot_stmt (emit : Emit) (k : Nat) (hT : EmitTotal emit k) (X : List Frame) : (s : Stmt) →
    ∀ ctx id ds inner, contScopedStmt s ctx = true →
    (X = [] ∨ (wellScopedStmt s ctx = true ∧ Covered ctx ((id, ds) :: inner))) →
    Small k ((id, ds) :: inner) → deferDepthStmt s ≤ k →
    ∃ ts ds' stop, compileStmt emit s ((id, ds) :: (inner ++ X)) =
        some (ts, (id, ds') :: (inner ++ X), stop) ∧ Small k ((id, ds') :: inner)
  | .print c => fun ctx id ds inner _ _ hS _ => ⟨_, ds, _, rfl, hS⟩
  | .defer b => by
    intro ctx id ds inner hw _ hS hk
    -- the body nests one `defer` deeper than the statement: `deferDepthStmt (.defer b) = deferDepth b + 1`
    have hk : deferDepth b < k := hk
    have hds : ∀ b' ∈ b :: ds, Closed b' ∧ deferDepth b' < k :=
      List.forall_mem_cons.2 ⟨⟨hw, hk⟩, Bodies.head hS⟩
    exact ⟨_, b :: ds, _, rfl, Bodies.cons hds (Bodies.tail hS)⟩
  | .brk l | .tryS l => by
    intro ctx id ds inner _ hj hS _
    obtain ⟨code, (h : defersUpTo emit l ((id, ds) :: (inner ++ X)) = some code)⟩ :=
      defersUpTo_total emit k hT l X ((id, ds) :: inner) hS (hj.imp_right fun h => h.2 l h.1)
    exact ⟨_, ds, _, by
      rw [compileStmt, h]
      rfl, hS⟩
  | .cont l => by
    intro ctx id ds inner _ hj hS _
    have hl : wellScopedStmt (.cont l) ctx = true → (lookupLabel l ctx).isSome = true := by
      intro hw
      simp only [wellScopedStmt, beq_iff_eq] at hw
      rw [hw]
      rfl
    obtain ⟨code, (h : defersUpTo emit l ((id, ds) :: (inner ++ X)) = some code)⟩ :=
      defersUpTo_total emit k hT l X ((id, ds) :: inner) hS (hj.imp_right fun h => h.2 l (hl h.1))
    exact ⟨_, ds, _, by
      rw [compileStmt, h]
      rfl, hS⟩
  | .block label body => by
    intro ctx id ds inner hw hj hS hk
    obtain ⟨tb, ex, h⟩ := closeBlock_of_tot_stmts (fr := (id, ds) :: (inner ++ X)) hT
      (tot_stmts emit k hT X body (pushLabel label ctx) label [] ((id, ds) :: inner) hw
        (hj.imp_right fun h => ⟨h.1, h.2.push_block label⟩) (Bodies.push hS label) hk)
    exact ⟨_, ds, _, by rw [compileStmt, h], hS⟩
  | .ifS body => by
    intro ctx id ds inner hw hj hS hk
    obtain ⟨tb, ex, h⟩ := closeBlock_of_tot_stmts (fr := (id, ds) :: (inner ++ X)) hT
      (tot_stmts emit k hT X body ctx none [] ((id, ds) :: inner) hw
        (hj.imp_right fun h => ⟨h.1, h.2.push_block none⟩) (Bodies.push hS none) hk)
    exact ⟨_, ds, _, by rw [compileStmt, h], hS⟩
  | .loop label body => by
    intro ctx id ds inner hw hj hS hk
    have hSb := Bodies.push (Bodies.push hS (some label)) none
    obtain ⟨tb, ex, h⟩ := closeBlock_of_tot_stmts (fr := (some label, []) :: (id, ds) :: (inner ++ X)) hT
      (tot_stmts emit k hT X body ((label, true) :: ctx) none [] ((some label, []) :: (id, ds) :: inner) hw
        (hj.imp_right fun h => ⟨h.1, h.2.push_loop label⟩) hSb hk)
    exact ⟨_, ds, _, by rw [compileStmt, h], hS⟩
  | .loopC label cond body => by
    intro ctx id ds inner hw hj hS hk
    simp only [contScopedStmt, Bool.and_eq_true] at hw
    simp only [wellScopedStmt, Bool.and_eq_true] at hj
    simp only [deferDepthStmt, Nat.max_le] at hk
    have hSb := Bodies.push (Bodies.push hS (some label)) none
    obtain ⟨tc, exc, hc⟩ := closeBlock_of_tot_stmts (fr := (some label, []) :: (id, ds) :: (inner ++ X)) hT
      (tot_stmts emit k hT X cond ((label, true) :: ctx) none [] ((some label, []) :: (id, ds) :: inner) hw.1
        (hj.imp_right fun h => ⟨h.1.1, h.2.push_loop label⟩) hSb hk.1)
    obtain ⟨tb, ex, h⟩ := closeBlock_of_tot_stmts (fr := (some label, []) :: (id, ds) :: (inner ++ X)) hT
      (tot_stmts emit k hT X body ((label, true) :: ctx) none [] ((some label, []) :: (id, ds) :: inner) hw.2
        (hj.imp_right fun h => ⟨h.1.2, h.2.push_loop label⟩) hSb hk.2)
    exact ⟨_, ds, _, by rw [compileStmt, hc, h], hS⟩
theorem tot_stmts (emit : Emit) (k : Nat) (hT : EmitTotal emit k) (X : List Frame) : (ss : Stmts) →
    ∀ ctx id ds inner, contScoped ss ctx = true →
    (X = [] ∨ (wellScoped ss ctx = true ∧ Covered ctx ((id, ds) :: inner))) →
    Small k ((id, ds) :: inner) → deferDepth ss ≤ k →
    ∃ ts ds' stop, compileStmts emit ss ((id, ds) :: (inner ++ X)) =
        some (ts, (id, ds') :: (inner ++ X), stop) ∧ Small k ((id, ds') :: inner)
  | .nil => fun ctx id ds inner _ _ hS _ => ⟨_, ds, _, rfl, hS⟩
  | .cons s r => by
    intro ctx id ds inner hw hj hS hk
    simp only [contScoped, Bool.and_eq_true] at hw
    simp only [wellScoped, Bool.and_eq_true] at hj
    simp only [deferDepth, Nat.max_le] at hk
    obtain ⟨ts1, ds1, stop1, hc1, hS1⟩ := tot_stmt emit k hT X s ctx id ds inner hw.1
      (hj.imp_right fun h => ⟨h.1.1, h.2⟩) hS hk.1
    cases stop1 with
    | true => exact ⟨ts1, ds1, true, by simp only [compileStmts, hc1, if_true], hS1⟩
    | false =>
      obtain ⟨tr, ds2, stop2, hc2, hS2⟩ := tot_stmts emit k hT X r ctx id ds1 inner hw.2
        (hj.imp_right fun h => ⟨h.1.2, Covered.retop h.2⟩) hS1 hk.2
      exact ⟨Ts.append ts1 tr, ds2, stop2,
        by simp only [compileStmts, hc1, hc2, Bool.false_eq_true, if_false], hS2⟩
end

/-- every re-entry compiles a body nested one `defer` deeper, so `deferDepth b` re-entries suffice -/
theorem compileDeferred_total : ∀ n, EmitTotal (compileDeferred n) n
  | 0 => by
    intro b fr _ h
    omega
  | n + 1 => by
    intro b fr hb hd
    have hT := compileDeferred_total n
    obtain ⟨tb, ex, h⟩ := closeBlock_of_tot_stmts (fr := fr) hT
      (tot_stmts (compileDeferred n) n hT fr b [] none [] []
        (wellScoped_contScoped b [] hb) (.inr ⟨hb, fun l hl => by simp [lookupLabel] at hl⟩)
        (Bodies.push Bodies.nil none) (by omega))
    exact ⟨_, by rw [compileDeferred, h]⟩

end CapyV.Defer
