import CapyV.Model.Generics
/-!
The invariant of the instance-identity model (`Model/Generics.lean`) and what it gives: recorded
ranges stay inside the arena and pairwise disjoint (`Inv`, kept by `step` and `runAll`), a site's
association and what its range denotes never change once made (`runAll_stable`). `Props/C16.lean`
reads its instance-identity theorems off these.
-/
namespace CapyV.Generics

/-- separation of the recorded ranges: every entry starts where all older ones have ended, and
sites are pairwise different (`assoc` is newest first, so the older entries are the tail) -/
def Sep : List (Site × Range) → Prop
  | [] => True
  | a :: rest => (∀ b ∈ rest, a.1 ≠ b.1 ∧ b.2.stop ≤ a.2.start) ∧ Sep rest

/-- kept by `step`; it is why a recorded range keeps its meaning (it lies inside the append-only
arena) and why distinct sites own disjoint ranges -/
def Inv (st : State) : Prop :=
  (∀ e ∈ st.assoc, e.2.start ≤ e.2.stop ∧ e.2.stop ≤ st.arena.length) ∧ Sep st.assoc

theorem lookupSite_none {s : Site} {l : List (Site × Range)} (h : lookupSite s l = none) :
    ∀ b ∈ l, s ≠ b.1 := by
  induction l with
  | nil =>
    intro b hb
    cases hb
  | cons a rest ih =>
    obtain ⟨k, r⟩ := a
    simp only [lookupSite] at h
    split at h
    · cases h
    · intro b hb
      cases hb with
      | head => assumption
      | tail _ hb => exact ih h b hb

theorem lookupSite_mem {s : Site} {r : Range} {l : List (Site × Range)}
    (h : lookupSite s l = some r) : (s, r) ∈ l := by
  induction l with
  | nil => cases h
  | cons a rest ih =>
    obtain ⟨k, r'⟩ := a
    simp only [lookupSite] at h
    split at h
    · next hk =>
      cases h
      subst hk
      exact List.mem_cons_self
    · exact List.mem_cons_of_mem _ (ih h)

theorem inv_empty : Inv State.empty := by
  refine ⟨?_, trivial⟩
  intro e he
  cases he

theorem step_inv (st : State) (site : Site) (vals : List CVal) (h : Inv st) :
    Inv (step st site vals).1 := by
  unfold step
  cases hl : lookupSite site st.assoc with
  | some r => simpa using h
  | none =>
    obtain ⟨h1, h2⟩ := h
    refine ⟨?_, ?_⟩
    · intro e he
      simp only [List.mem_cons] at he
      cases he with
      | inl he =>
        subst he
        simp
      | inr he =>
        have := h1 e he
        simp only [List.length_append]
        omega
    · refine ⟨?_, h2⟩
      intro b hb
      exact ⟨lookupSite_none hl b hb, (h1 b hb).2⟩

theorem runAll_inv (hist : List (Site × List CVal)) : ∀ st, Inv st → Inv (runAll st hist) := by
  induction hist with
  | nil =>
    intro st h
    exact h
  | cons a rest ih =>
    obtain ⟨s, v⟩ := a
    intro st h
    exact ih _ (step_inv st s v h)

theorem sep_disjoint {l : List (Site × Range)} (h : Sep l) {a b : Site × Range}
    (ha : a ∈ l) (hb : b ∈ l) (hne : a.1 ≠ b.1) :
    b.2.stop ≤ a.2.start ∨ a.2.stop ≤ b.2.start := by
  induction l with
  | nil => cases ha
  | cons c rest ih =>
    obtain ⟨hc, hrest⟩ := h
    cases ha with
    | head =>
      cases hb with
      | head => exact absurd rfl hne
      | tail _ hb => exact Or.inl (hc b hb).2
    | tail _ ha =>
      cases hb with
      | head => exact Or.inr (hc a ha).2
      | tail _ hb => exact ih hrest ha hb

theorem step_assoc_stable (st : State) (site : Site) (vals : List CVal) (s : Site) (r : Range)
    (h : lookupSite s st.assoc = some r) : lookupSite s (step st site vals).1.assoc = some r := by
  unfold step
  cases hl : lookupSite site st.assoc with
  | some r' => simpa using h
  | none =>
    have : s ≠ site := by
      intro e
      subst e
      rw [hl] at h
      cases h
    simp [lookupSite, this, h]

theorem step_assoc_self (st : State) (site : Site) (vals : List CVal) :
    lookupSite site (step st site vals).1.assoc = some (step st site vals).2 := by
  unfold step
  cases hl : lookupSite site st.assoc with
  | some r' => simpa using hl
  | none => simp [lookupSite]

/-- the arena only grows at its end -/
theorem step_readArgs_stable (st : State) (site : Site) (vals : List CVal) (r : Range)
    (hr : r.start ≤ r.stop ∧ r.stop ≤ st.arena.length) :
    readArgs (step st site vals).1 r = readArgs st r := by
  unfold step
  cases hl : lookupSite site st.assoc with
  | some r' => rfl
  | none =>
    simp only [readArgs]
    rw [List.drop_append_of_le_length (by omega)]
    rw [List.take_append_of_le_length (by simp; omega)]

theorem step_readArgs_fresh (st : State) (site : Site) (vals : List CVal)
    (hl : lookupSite site st.assoc = none) :
    readArgs (step st site vals).1 (step st site vals).2 = vals := by
  unfold step
  simp only [hl, readArgs]
  simp

theorem runAll_stable (hist : List (Site × List CVal)) :
    ∀ st, Inv st → ∀ s r, lookupSite s st.assoc = some r →
      readArgs (runAll st hist) r = readArgs st r ∧ lookupSite s (runAll st hist).assoc = some r := by
  induction hist with
  | nil =>
    intro st _ s r h
    exact ⟨rfl, h⟩
  | cons a rest ih =>
    obtain ⟨s', v⟩ := a
    intro st hinv s r h
    have h1 := step_assoc_stable st s' v s r h
    have hb := hinv.1 (s, r) (lookupSite_mem h)
    obtain ⟨e1, e2⟩ := ih _ (step_inv st s' v hinv) s r h1
    refine ⟨?_, ?_⟩
    · simp only [runAll]
      rw [e1, step_readArgs_stable st s' v r hb]
    · simpa [runAll] using e2

end CapyV.Generics
