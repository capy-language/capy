import CapyV.Proofs.ExprCore
/-!
The generalised round-trip statement for C24 and its proof by structural recursion over
`Tree`/`Args`: parsing `print t ++ rest` at any minimum
binding power `m ≤ k` (where `t` was printed for level `k`) absorbs exactly the tokens of
`t` and leaves the Pratt loop at `(t, rest)`. `Spec d t` says, for each of the printer's three
contexts in which `t` needs no parentheses, what the parser function entered there does with
`printRaw d t` (`CtxSpec`); `Spec.inCtx` adds the parentheses. `Spec` is the invariant of that
recursion, not a specification in the sense of `Spec/`.
-/
namespace CapyV.ExprCore
open CapyV.Generated.BP

@[simp] theorem parens_length (n : Nat) (s : List Tok) : (parens n s).length = s.length + 2 * n := by
  induction n with
  | zero => simp [parens]
  | succ n ih =>
    simp [parens, ih]
    omega

theorem parens_succ_append (n : Nat) (s r : List Tok) :
    parens (n + 1) s ++ r = .lparen :: (parens n s ++ (.rparen :: r)) := by
  simp [parens]

theorem needsParen_expr0 (t : Tree) : needsParen (.expr 0) t = false := by
  cases t <;> simp [needsParen]

theorem one_le_layers {d : Ctx → Tree → Nat} {c : Ctx} {t : Tree} (h : needsParen c t = true) :
    layers d c t ≥ 1 := by
  simp [layers, h]

theorem needsParen_pre {ndot : Bool} {t : Tree} (h : needsParen (.preOp ndot) t = false) :
    spineHas true t = false ∧ (ndot = true → spineHas false t = false) := by
  cases t with
  | bin => simp [needsParen] at h
  | un | ref => exact ⟨rfl, fun _ => rfl⟩
  | _ => simpa [needsParen] using h

/-- parsing `s ++ rest` at level `m` leaves the loop at `(t, rest)`. `m ≤ k` lets the top
operator of `t` in; `Follow (k + 1) rest`: what follows binds no tighter than `k`, or it would end
up inside `t`. Fuel: every call costs one unit and four units per token suffice. `+ 8` is the
constant of `fuelFor`; the other specs have it less the calls from `parseBp` down to their
function (one to `parseLhs`, two to `parsePost`), or plus the call from `parseArgs` down to
`parseBp`, rounded generously: none is tight. -/
def ExprSpec (s : List Tok) (t : Tree) (k : Nat) : Prop :=
  ∀ m f rest, m ≤ k → Follow (k + 1) rest → f ≥ 4 * s.length + 8 →
    ∃ f', f' + 4 * s.length + 2 ≥ f ∧ parseBp f m (s ++ rest) = parseLoop f' m t rest

def LhsSpec (s : List Tok) (t : Tree) : Prop :=
  ∀ f rest, f ≥ 4 * s.length + 6 → parseLhs (f + 1) (s ++ rest) = some (t, rest)

/-- a prefix expression: `parse_lhs` takes it whole only in front of something that cannot
continue its operand -/
def PreSpec (s : List Tok) (t : Tree) : Prop :=
  ∀ f rest, FollowAny rest → f ≥ 4 * s.length + 6 → parseLhs (f + 1) (s ++ rest) = some (t, rest)

/-- `s` is an operand with its postfix operators: `parse_lhs` takes a base off it and
`parse_post_operators`, under flags that `t` allows, folds the rest of `s` onto the base and stands
at `t` in front of `rest` (with four units of fuel less per token, at worst) -/
def Chain (s : List Tok) (t : Tree) : Prop :=
  ∀ nd ndot f g rest, (nd = true → spineHas true t = false) → (ndot = true → spineHas false t = false) →
    f ≥ 4 * s.length + 6 → g ≥ 4 * s.length + 4 →
    ∃ g', g' + 4 * s.length ≥ g ∧ lhsPost (f + 1) g nd ndot (s ++ rest) = parsePost g' nd ndot t rest

/-- a `Chain` in front of a stop: there `parse_post_operators` is still running, here it has
returned -/
def Operand (s : List Tok) (t : Tree) (nd ndot : Bool) : Prop :=
  ∀ f g rest, FollowAny rest → f ≥ 4 * s.length + 6 → g ≥ 4 * s.length + 4 →
    lhsPost (f + 1) g nd ndot (s ++ rest) = some (t, rest)

def ArgsSpec (d : Ctx → Tree → Nat) (as : Args) : Prop :=
  ∀ f rest, f ≥ 4 * (printArgs d as).length + 10 →
    parseArgs f (printArgs d as ++ .rparen :: rest) = some (as, rest)

def CtxSpec : Ctx → List Tok → Tree → Prop
  | .expr k, s, t => ExprSpec s t k
  | .preOp ndot, s, t => Operand s t true ndot
  | .postOp, s, t => Chain s t

def Spec (d : Ctx → Tree → Nat) (t : Tree) : Prop :=
  ∀ c, needsParen c t = false → CtxSpec c (printRaw d t) t

theorem ExprSpec.done {s t k} (h : ExprSpec s t k) {rest} (hk : Follow k rest) {f} (hf : f ≥ 4 * s.length + 8) :
    parseBp f k (s ++ rest) = some (t, rest) := by
  obtain ⟨f', hf', he⟩ := h k f rest (Nat.le_refl _) (hk.mono (Nat.le_succ _)) hf
  obtain ⟨x, rfl⟩ : ∃ x, f' = x + 2 := ⟨f' - 2, by omega⟩
  rw [he, loop_stop hk]

theorem ExprSpec.weaken {s t k} (h : ExprSpec s t k) {k'} (hk : k' ≤ k) : ExprSpec s t k' := by
  intro m f rest hm hfo hf
  exact h m f rest (by omega) (hfo.mono (by omega)) hf

theorem lhs_of_expr {s t} (h : ExprSpec s t 0) : LhsSpec (parens 1 s) t := by
  intro f rest hf
  simp only [parens_length] at hf
  have := h.done (rest := .rparen :: rest) (by simp [Follow]) (f := f) (by omega)
  simp only [parens, List.cons_append, List.append_assoc, List.nil_append]
  exact lhs_paren (by simpa using this)

/-- the loop sees its operand and tokens only through what `parse_post_operators` makes of them -/
theorem loop_congr {x m a ta b tb R} (h : parsePost x false false a ta = some R)
    (h' : parsePost x false false b tb = some R) :
    parseLoop (x + 1) m a ta = parseLoop (x + 1) m b tb := by
  rw [parseLoop, parseLoop]
  simp only [loopDisallowDerefs, loopDisallowDot, h, h']

theorem expr_of_operand {s t} (h : Operand s t false false) (k : Nat) : ExprSpec s t k := by
  intro m f rest _ hfo hf
  obtain ⟨y, rfl⟩ : ∃ y, f = y + 3 := ⟨f - 3, by omega⟩
  obtain ⟨base, r, hl, hp⟩ := lhsPost_eq_some (h (y + 1) (y + 1) rest hfo.any (by omega) (by omega))
  refine ⟨y + 2, by omega, ?_⟩
  rw [bp_step hl]
  exact loop_congr hp (post_stop hfo.any ..)

theorem operand_of_pre {s t} (h : PreSpec s t) (nd ndot : Bool) : Operand s t nd ndot := by
  intro f g rest hr hf hg
  obtain ⟨y, rfl⟩ : ∃ y, g = y + 1 := ⟨g - 1, by omega⟩
  rw [lhsPost_of_lhs (h f rest hr hf), post_stop hr]

theorem Chain.operand {s t} (h : Chain s t) {nd ndot : Bool}
    (hnd : nd = true → spineHas true t = false) (hndot : ndot = true → spineHas false t = false) :
    Operand s t nd ndot := by
  intro f g rest hr hf hg
  obtain ⟨g', hg', e⟩ := h nd ndot f g rest hnd hndot hf hg
  obtain ⟨y, rfl⟩ : ∃ y, g' = y + 1 := ⟨g' - 1, by omega⟩
  rw [e, post_stop hr]

theorem Operand.prefix {s t ndot} (h : Operand s t true ndot) {f rest} (hr : FollowAny rest)
    (hf : f ≥ 4 * s.length + 8) : parseExprForPrefix f ndot (s ++ rest) = some (t, rest) := by
  obtain ⟨x, rfl⟩ : ∃ x, f = x + 2 := ⟨f - 2, by omega⟩
  rw [parseExprForPrefix_eq_lhsPost]
  exact h x (x + 1) rest hr (by omega) (by omega)

theorem chain_of_lhs {s t} (h : LhsSpec s t) : Chain s t := by
  intro nd ndot f g rest _ _ hf _
  exact ⟨g, by omega, lhsPost_of_lhs (h f rest hf)⟩

theorem ctx_of_lhs {s t} (h : LhsSpec s t) : ∀ c, CtxSpec c s t
  | .expr k => expr_of_operand (operand_of_pre (fun f rest _ => h f rest) _ _) k
  | .preOp _ => operand_of_pre (fun f rest _ => h f rest) _ _
  | .postOp => chain_of_lhs h

/-- any number of parenthesis pairs, the needed one included -/
theorem Spec.lhsParens {d t} (h : Spec d t) : ∀ n, LhsSpec (parens (n + 1) (printRaw d t)) t
  | 0 => lhs_of_expr (h (.expr 0) (needsParen_expr0 t))
  | n + 1 => lhs_of_expr (ctx_of_lhs (h.lhsParens n) (.expr 0))

theorem Spec.inCtx {d t} (h : Spec d t) (c : Ctx) : CtxSpec c (parens (layers d c t) (printRaw d t)) t := by
  -- no pair at all only where none is needed; one pair or more is `lhsParens`
  cases hn : layers d c t with
  | zero =>
    refine h c (Bool.eq_false_iff.2 fun hp => ?_)
    have := one_le_layers (d := d) hp
    omega
  | succ n => exact ctx_of_lhs (h.lhsParens n) c

/-- one more postfix operator on a chain: `step` is the one iteration of
`parse_post_operators` that folds the operator's tokens `opT` onto `e` -/
theorem chain_ext {s e} (h : Chain s e) (opT : List Tok) (hop : 0 < opT.length) (t' : Tree)
    (hsp : ∀ w, spineHas w t' = false → spineHas w e = false)
    (step : ∀ nd ndot g rest, (nd = true → spineHas true t' = false) →
      (ndot = true → spineHas false t' = false) → g ≥ 4 * opT.length + 3 →
        parsePost (g + 1) nd ndot e (opT ++ rest) = parsePost g nd ndot t' rest) :
    Chain (s ++ opT) t' := by
  intro nd ndot f g rest hnd hndot hf hg
  simp only [List.length_append] at hf hg ⊢
  obtain ⟨g1, hg1, e1⟩ := h nd ndot f g (opT ++ rest) (fun h => hsp _ (hnd h)) (fun h => hsp _ (hndot h))
    (by omega) (by omega)
  obtain ⟨x, rfl⟩ : ∃ x, g1 = x + 1 := ⟨g1 - 1, by omega⟩
  exact ⟨x, by omega, by rw [List.append_assoc, e1, step nd ndot x rest hnd hndot (by omega)]⟩

theorem spec_of_chain {d t} (h : Chain (printRaw d t) t) : Spec d t
  | .expr k, _ => expr_of_operand (h.operand nofun nofun) k
  | .preOp _, hp => h.operand (fun _ => (needsParen_pre hp).1) (needsParen_pre hp).2
  | .postOp, _ => h

theorem spec_of_pre {d t} (h : PreSpec (printRaw d t) t) (hp : needsParen .postOp t = true) : Spec d t
  | .expr k, _ => expr_of_operand (operand_of_pre h _ _) k
  | .preOp _, _ => operand_of_pre h _ _
  | .postOp, h' => by simp [hp] at h'

theorem spec_atom {d t} (h : ∀ f rest, parseLhs (f + 1) (printRaw d t ++ rest) = some (t, rest)) :
    Spec d t :=
  spec_of_chain (chain_of_lhs fun f rest _ => h f rest)

theorem spec_bin {d b l r} (hl : Spec d l) (hr : Spec d r) : Spec d (.bin b l r)
  | .preOp _, h | .postOp, h => by simp [needsParen] at h
  | .expr k, hk => by
    intro m f rest hm hfo hf
    simp only [needsParen, decide_eq_false_iff_not, Nat.not_lt] at hk
    simp only [printRaw, List.append_assoc, List.length_append, List.length_cons,
      List.cons_append, List.nil_append] at hf ⊢
    obtain ⟨f1, hf1, e1⟩ := hl.inCtx (.expr (lbp b)) m f
      (.bop b :: (parens (layers d (.expr (rbp b)) r) (printRaw d r) ++ rest)) (by omega)
      (by simp [Follow]) (by omega)
    obtain ⟨y, rfl⟩ : ∃ y, f1 = y + 2 := ⟨f1 - 2, by omega⟩
    -- left associativity (`rbp = lbp + 1`): an operator of `b`'s level behind `r` ends `r`
    have hk' : k + 1 ≤ rbp b := by
      rw [rbp_eq]
      omega
    have hR := ExprSpec.done (hr.inCtx (.expr (rbp b))) (rest := rest)
      (hfo.mono hk') (f := y + 1) (by omega)
    exact ⟨y + 1, by omega, by rw [e1, loop_step b (by omega) (good_at d _ r) hR]⟩

theorem spec_un {d u e} (he : Spec d e) : Spec d (.un u e) := by
  apply spec_of_pre _ rfl
  intro f rest hr hf
  simp only [printRaw, List.length_cons] at hf
  simp only [printRaw, List.cons_append]
  exact lhs_un u (Operand.prefix (he.inCtx (.preOp false)) hr (by omega))

theorem spec_ref {d mu e} (he : Spec d e) : Spec d (.ref mu e) := by
  apply spec_of_pre _ rfl
  intro f rest hr hf
  cases mu with
  | true =>
    simp only [printRaw, List.length_cons] at hf
    simp only [printRaw, List.cons_append]
    exact lhs_refmut (Operand.prefix (he.inCtx (.preOp true)) hr (by omega))
  | false =>
    simp only [printRaw, List.length_cons] at hf
    simp only [printRaw, List.cons_append]
    exact lhs_ref (good_at d _ e) rest (Operand.prefix (he.inCtx (.preOp true)) hr (by omega))

theorem spec_deref {d e} (he : Spec d e) : Spec d (.deref e) := by
  apply spec_of_chain
  apply chain_ext (he.inCtx .postOp) [.caret] (by simp) (.deref e)
    (fun | true, h => nomatch h | false, h => h)
  intro nd ndot g rest hnd _ _
  cases nd with
  | true => exact nomatch hnd rfl
  | false => exact post_deref ..

theorem spec_try {d e} (he : Spec d e) : Spec d (.try_ e) := by
  apply spec_of_chain
  apply chain_ext (he.inCtx .postOp) [.dot, .try_] (by simp) (.try_ e) (fun _ h => h)
  intro nd ndot g rest _ _ _
  exact post_try ..

theorem spec_field {d e n} (he : Spec d e) : Spec d (.field e n) := by
  apply spec_of_chain
  apply chain_ext (he.inCtx .postOp) [.dot, .ident n] (by simp) (.field e n) (fun _ h => h)
  intro nd ndot g rest _ _ _
  exact post_field ..

theorem spec_index {d e i} (he : Spec d e) (hi : Spec d i) : Spec d (.index e i) := by
  apply spec_of_chain
  simp only [printRaw, List.append_assoc]
  apply chain_ext (he.inCtx .postOp) _ (by simp) (.index e i) (fun _ h => h)
  intro nd ndot g rest _ _ hg
  simp only [List.length_append, List.length_cons, List.length_nil] at hg
  simp only [List.append_assoc, List.cons_append, List.nil_append]
  exact post_index (good_at d _ i) (ExprSpec.done (hi.inCtx (.expr 0))
    (rest := .rbrack :: rest) (by simp [Follow]) (by omega))

theorem spec_cast {d e v} (he : Spec d e) (hv : Spec d v) : Spec d (.cast e v) := by
  apply spec_of_chain
  simp only [printRaw, List.append_assoc]
  apply chain_ext (he.inCtx .postOp) _ (by simp) (.cast e v)
    (fun | true, h => h | false, h => nomatch h)
  intro nd ndot g rest _ hndot hg
  cases ndot with
  | true => exact nomatch hndot rfl
  | false =>
    simp only [List.length_append, List.length_cons, List.length_nil] at hg
    simp only [List.append_assoc, List.cons_append, List.nil_append]
    exact post_cast (good_at d _ v) (ExprSpec.done (hv.inCtx (.expr 0))
      (rest := .rparen :: rest) (by simp [Follow]) (by omega))

theorem spec_call {d g as} (hg : Spec d g) (has : ArgsSpec d as) : Spec d (.call g as) := by
  apply spec_of_chain
  simp only [printRaw, List.append_assoc]
  apply chain_ext (hg.inCtx .postOp) _ (by simp) (.call g as) (fun _ h => h)
  intro nd ndot f rest _ _ hf
  simp only [List.length_append, List.length_cons, List.length_nil] at hf
  simp only [List.append_assoc, List.cons_append, List.nil_append]
  exact post_call (has f rest (by omega))

theorem args_nil_spec (d) : ArgsSpec d .nil := by
  intro f rest hf
  obtain ⟨g, rfl⟩ : ∃ g, f = g + 1 := ⟨f - 1, by omega⟩
  simpa [printArgs] using args_nil g rest

theorem args_one_spec {d a} (ha : Spec d a) : ArgsSpec d (.cons a .nil) := by
  intro f rest hf
  simp only [printArgs] at hf ⊢
  obtain ⟨g, rfl⟩ : ∃ g, f = g + 1 := ⟨f - 1, by omega⟩
  exact args_last (good_at d _ a)
    (ExprSpec.done (ha.inCtx (.expr 0)) (rest := .rparen :: rest) (by simp [Follow]) (by omega))

theorem args_more_spec {d a b r} (ha : Spec d a) (hr : ArgsSpec d (.cons b r)) :
    ArgsSpec d (.cons a (.cons b r)) := by
  intro f rest hf
  simp only [printArgs, List.append_assoc, List.length_append, List.length_cons,
    List.cons_append, List.nil_append] at hf ⊢
  obtain ⟨g, rfl⟩ : ∃ g, f = g + 1 := ⟨f - 1, by omega⟩
  exact args_more (good_at d _ a)
    (ExprSpec.done (ha.inCtx (.expr 0))
      (rest := .comma :: (printArgs d (.cons b r) ++ .rparen :: rest)) (by simp [Follow]) (by omega))
    (hr g rest (by omega))

mutual
  theorem spec_tree (d : Ctx → Tree → Nat) : (t : Tree) → Spec d t
    | .ident n => spec_atom fun f => lhs_ident f n
    | .int n => spec_atom fun f => lhs_int f n
    | .bin _ l r => spec_bin (spec_tree d l) (spec_tree d r)
    | .un _ e => spec_un (spec_tree d e)
    | .ref _ e => spec_ref (spec_tree d e)
    | .deref e => spec_deref (spec_tree d e)
    | .try_ e => spec_try (spec_tree d e)
    | .field e _ => spec_field (spec_tree d e)
    | .index e i => spec_index (spec_tree d e) (spec_tree d i)
    | .cast e v => spec_cast (spec_tree d e) (spec_tree d v)
    | .call g as => spec_call (spec_tree d g) (spec_args d as)
  theorem spec_args (d : Ctx → Tree → Nat) : (as : Args) → ArgsSpec d as
    | .nil => args_nil_spec d
    | .cons a .nil => args_one_spec (spec_tree d a)
    | .cons a (.cons b r) => args_more_spec (spec_tree d a) (spec_args d (.cons b r))
end

theorem parse_printWith (d : Ctx → Tree → Nat) (t : Tree) : parse (printWith d t) = some t := by
  have h := ExprSpec.done ((spec_tree d t).inCtx (.expr 0)) (rest := []) (by simp [Follow])
    (f := fuelFor (printWith d t)) (by simp [fuelFor, printWith, printAt])
  simp only [List.append_nil] at h
  simp [parse, printWith, printAt, startBp] at h ⊢
  simp [h]

theorem parse_of_print {toks : List Tok} {t : Tree} (h : print t = toks) : parse toks = some t :=
  h ▸ parse_printWith _ t

end CapyV.ExprCore
