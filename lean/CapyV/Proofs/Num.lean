import CapyV.Model.Num
/-! C08. Patterns and values meet in two lemmas, `ofInt_valOf` and `valOf_ofInt` (reading back
wraps); each operation is then the `w`-bit pattern of its exact integer result (`iadd_eq` …).
Casts: every rung of `cast_num`'s ladder is `BitVec.ofInt to (valOf s v)` (`ladder_eq`), which
makes each integer quadrant of `castNum` one equation (`castNum_int_int`, `castNum_int_float`,
`castNum_float_int`). -/
namespace CapyV.Num

theorem two_pow_le {m n : Nat} (h : m ≤ n) : (2 : Int) ^ m ≤ 2 ^ n := by
  have := Nat.pow_le_pow_right (n := 2) (by decide) h
  have h2 : ((2 ^ m : Nat) : Int) ≤ ((2 ^ n : Nat) : Int) := Int.ofNat_le.mpr this
  simpa [Int.natCast_pow] using h2

theorem ofInt_valOf (s : Bool) (v : BitVec w) : BitVec.ofInt w (valOf s v) = v := by
  unfold valOf
  cases s <;> simp

theorem valOf_ofInt (s : Bool) (z : Int) : valOf s (BitVec.ofInt w z) = wrap w s z := by
  unfold valOf wrap
  cases s
  · simp only [Bool.false_eq_true, ↓reduceIte, BitVec.toNat_ofInt]
    have h : 0 ≤ z % 2 ^ w := Int.emod_nonneg z (Int.ne_of_gt (Int.pow_pos (by decide)))
    rw [Int.toNat_of_nonneg]
    · simp
    · simpa using h
  · simp

theorem valOf_inj (s : Bool) {a b : BitVec w} (h : valOf s a = valOf s b) : a = b := by
  rw [← ofInt_valOf s a, ← ofInt_valOf s b, h]

theorem setWidth_eq_ofInt_toNat (to : Nat) (v : BitVec w) :
    v.setWidth to = BitVec.ofInt to (v.toNat : Int) := by
  rw [BitVec.ofInt_natCast, BitVec.ofNat_toNat]

theorem fits_unsigned {z : Int} : fits w false z ↔ 0 ≤ z ∧ z < 2 ^ w := by
  show 0 ≤ z ∧ z ≤ 2 ^ w - 1 ↔ _
  rw [Int.le_sub_one_iff]

theorem fits_signed {z : Int} : fits w true z ↔ -(2 ^ (w - 1)) ≤ z ∧ z < 2 ^ (w - 1) := by
  show -(2 ^ (w - 1)) ≤ z ∧ z ≤ 2 ^ (w - 1) - 1 ↔ _
  rw [Int.le_sub_one_iff]

theorem wrap_of_fits {bits : Nat} (hb : 0 < bits) (s : Bool) {z : Int} (h : fits bits s z) :
    wrap bits s z = z := by
  cases s
  · rw [fits_unsigned] at h
    exact Int.emod_eq_of_lt h.1 h.2
  · rw [fits_signed] at h
    exact (BitVec.toInt_ofInt z).symm.trans (BitVec.toInt_ofInt_eq_self hb h.1 h.2)

theorem fits_valOf (s : Bool) (v : BitVec w) : fits w s (valOf s v) := by
  cases s
  · rw [fits_unsigned]
    have h2 : ((v.toNat : Int)) < ((2 ^ w : Nat) : Int) := Int.ofNat_lt.mpr v.isLt
    simp only [Int.natCast_pow, Int.cast_ofNat_Int] at h2
    exact ⟨Int.natCast_nonneg _, h2⟩
  · rw [fits_signed]
    exact ⟨BitVec.le_toInt v, BitVec.toInt_lt⟩

theorem clamp_of_mem {lo hi z : Int} (h1 : lo ≤ z) (h2 : z ≤ hi) : clamp lo hi z = z := by
  rw [clamp, if_neg (Int.not_lt.mpr h1), if_neg (Int.not_lt.mpr h2)]

theorem fits_mono {m n : Nat} (h : m ≤ n) (s : Bool) {z : Int} (hz : fits m s z) :
    fits n s z := by
  cases s
  · rw [fits_unsigned] at hz ⊢
    exact ⟨hz.1, Int.lt_of_lt_of_le hz.2 (two_pow_le h)⟩
  · rw [fits_signed] at hz ⊢
    have := two_pow_le (Nat.sub_le_sub_right h 1)
    exact ⟨Int.le_trans (Int.neg_le_neg this) hz.1, Int.lt_of_lt_of_le hz.2 this⟩

theorem iadd_eq (s : Bool) (a b : BitVec w) :
    iadd a b = BitVec.ofInt w (valOf s a + valOf s b) := by
  rw [BitVec.ofInt_add, ofInt_valOf, ofInt_valOf]
  rfl

theorem imul_eq (s : Bool) (a b : BitVec w) :
    imul a b = BitVec.ofInt w (valOf s a * valOf s b) := by
  rw [BitVec.ofInt_mul, ofInt_valOf, ofInt_valOf]
  rfl

theorem ineg_eq (s : Bool) (a : BitVec w) : ineg a = BitVec.ofInt w (-valOf s a) := by
  rw [BitVec.ofInt_neg, ofInt_valOf]
  rfl

theorem isub_eq (s : Bool) (a b : BitVec w) :
    isub a b = BitVec.ofInt w (valOf s a - valOf s b) := by
  rw [Int.sub_eq_add_neg, BitVec.ofInt_add, BitVec.ofInt_neg, ofInt_valOf, ofInt_valOf]
  unfold isub
  exact BitVec.sub_eq_add_neg a b

theorem sdiv_trunc (a b : BitVec w) (hb : b ≠ 0#w)
    (ho : ¬(a = BitVec.intMin w ∧ b = BitVec.allOnes w)) :
    ∃ r, sdiv a b = .val r ∧ r.toInt = a.toInt.tdiv b.toInt := by
  refine ⟨a.sdiv b, ?_, ?_⟩
  · simp [sdiv, hb, ho]
  · apply BitVec.toInt_sdiv_of_ne_or_ne
    rw [BitVec.neg_one_eq_allOnes]
    by_cases h : a = BitVec.intMin w
    · right
      intro hb'
      exact ho ⟨h, hb'⟩
    · left
      exact h

theorem udiv_trunc (a b : BitVec w) (hb : b ≠ 0#w) :
    ∃ r, udiv a b = .val r ∧ (r.toNat : Int) = (a.toNat : Int).tdiv (b.toNat : Int) := by
  refine ⟨a / b, by simp [udiv, hb], ?_⟩
  rw [BitVec.toNat_udiv, Int.tdiv_eq_ediv_of_nonneg (Int.natCast_nonneg _)]
  simp

theorem srem_trunc (a b : BitVec w) (hb : b ≠ 0#w) :
    ∃ r, srem a b = .val r ∧ r.toInt = a.toInt.tmod b.toInt :=
  ⟨a.srem b, by simp [srem, hb], BitVec.toInt_srem a b⟩

theorem urem_trunc (a b : BitVec w) (hb : b ≠ 0#w) :
    ∃ r, urem a b = .val r ∧ (r.toNat : Int) = (a.toNat : Int).tmod (b.toNat : Int) := by
  refine ⟨a % b, by simp [urem, hb], ?_⟩
  rw [BitVec.toNat_umod, Int.tmod_eq_emod_of_nonneg (Int.natCast_nonneg _)]
  simp

theorem shamt_of_lt (b : BitVec w) (h : b.toNat < w) : shamt b = b.toNat := Nat.mod_eq_of_lt h

theorem sshr_floor (a b : BitVec w) (h : b.toNat < w) :
    (sshr a b).toInt = a.toInt / 2 ^ b.toNat := by
  unfold sshr
  rw [shamt_of_lt b h, BitVec.toInt_sshiftRight, Int.shiftRight_eq_div_pow]
  push_cast
  rfl

theorem ushr_floor (a b : BitVec w) (h : b.toNat < w) :
    ((ushr a b).toNat : Int) = (a.toNat : Int) / 2 ^ b.toNat := by
  unfold ushr
  rw [shamt_of_lt b h, BitVec.toNat_ushiftRight, Nat.shiftRight_eq_div_pow]
  simp

theorem ofInt_two_pow (n : Nat) : BitVec.ofInt w (2 ^ n) = BitVec.twoPow w n := by
  apply BitVec.eq_of_toNat_eq
  have : ((2 : Int) ^ n) = ((2 ^ n : Nat) : Int) := by
    push_cast
    rfl
  rw [this, BitVec.ofInt_natCast]
  simp [BitVec.toNat_twoPow]

theorem ishl_eq (s : Bool) (a b : BitVec w) (h : b.toNat < w) :
    ishl a b = BitVec.ofInt w (valOf s a * 2 ^ b.toNat) := by
  unfold ishl
  rw [shamt_of_lt b h, BitVec.shiftLeft_eq_mul_twoPow, BitVec.ofInt_mul, ofInt_valOf,
    ofInt_two_pow]

theorem icmp_slt (a b : BitVec w) : icmp .slt a b = decide (a.toInt < b.toInt) := rfl
theorem icmp_sle (a b : BitVec w) : icmp .sle a b = decide (a.toInt ≤ b.toInt) := rfl
theorem icmp_sgt (a b : BitVec w) : icmp .sgt a b = decide (b.toInt < a.toInt) := rfl
theorem icmp_sge (a b : BitVec w) : icmp .sge a b = decide (b.toInt ≤ a.toInt) := rfl
theorem icmp_ult (a b : BitVec w) :
    icmp .ult a b = decide ((a.toNat : Int) < (b.toNat : Int)) := by
  simp [icmp, BitVec.ult_eq_decide]
theorem icmp_ule (a b : BitVec w) :
    icmp .ule a b = decide ((a.toNat : Int) ≤ (b.toNat : Int)) := by
  simp [icmp, BitVec.ule_eq_decide]
theorem icmp_ugt (a b : BitVec w) :
    icmp .ugt a b = decide ((b.toNat : Int) < (a.toNat : Int)) :=
  icmp_ult b a
theorem icmp_uge (a b : BitVec w) :
    icmp .uge a b = decide ((b.toNat : Int) ≤ (a.toNat : Int)) :=
  icmp_ule b a

theorem icmp_eq (s : Bool) (a b : BitVec w) :
    icmp .eq a b = decide (valOf s a = valOf s b) :=
  show decide (a = b) = _ from decide_eq_decide.mpr ⟨congrArg _, valOf_inj s⟩

theorem icmp_ne (s : Bool) (a b : BitVec w) :
    icmp .ne a b = decide (valOf s a ≠ valOf s b) := by
  show (!icmp .eq a b) = _
  rw [icmp_eq s, ← decide_not]

theorem toInt_setWidth_of_eq {w w' : Nat} (h : w = w') (v : BitVec w) :
    (v.setWidth w').toInt = v.toInt := by
  subst h
  simp

theorem toNat_setWidth_of_eq {w w' : Nat} (h : w = w') (v : BitVec w) :
    (v.setWidth w').toNat = v.toNat := by
  subst h
  simp

/-- every rung of `cast_num`'s extend / keep / reduce ladder yields the target-width pattern of
the value the source denotes: `signExtend` truncates when narrowing, so a signed source is
`signExtend` on every rung and an unsigned one `setWidth` -/
theorem ladder_eq (s : Bool) (to : Nat) (v : BitVec w) :
    (if w < to then (if s then sextend to v else uextend to v)
      else if w = to then v.setWidth to else ireduce to v) = BitVec.ofInt to (valOf s v) := by
  cases s
  · rw [show valOf false v = (v.toNat : Int) from rfl, ← setWidth_eq_ofInt_toNat]
    split
    · rfl
    · split <;> rfl
  · -- `signExtend to v` is by definition `ofInt to v.toInt`, for narrower `to` too
    rw [show BitVec.ofInt to (valOf true v) = v.signExtend to from rfl]
    split
    · rfl
    · have := (BitVec.signExtend_eq_setWidth_of_le v (Nat.le_of_not_lt ‹_›)).symm
      split <;> exact this

theorem castNum_int_int {cf ct : NumTy} (hf : cf.float = false) (ht : ct.float = false)
    (v : BitVec cf.bits) :
    castNum cf ct (.i cf.bits v) = .ok (.i ct.bits (BitVec.ofInt ct.bits (valOf cf.signed v))) := by
  obtain ⟨fb, _, fs⟩ := cf
  obtain ⟨tb, _, ts⟩ := ct
  cases hf
  cases ht
  rw [← ladder_eq]
  by_cases heq : fb = tb
  · subst heq
    simp [castNum]
  · by_cases hlt : fb < tb <;> cases fs <;> simp [castNum, heq, hlt]

/-- int → float: the conversion instruction receives the source's value wrapped to the
conversion width -/
theorem castNum_int_float {cf ct : NumTy} (hf : cf.float = false) (ht : ct.float = true)
    (v : BitVec cf.bits) :
    castNum cf ct (.i cf.bits v) =
      .ok (.f (.fin (wrap (convWidth cf.bits) cf.signed (valOf cf.signed v)))) := by
  obtain ⟨fb, _, fs⟩ := cf
  obtain ⟨tb, _, ts⟩ := ct
  cases hf
  cases ht
  rw [← valOf_ofInt, ← ladder_eq]
  cases fs <;> simp [castNum, valOf, fcvtFromSint, fcvtFromUint]

/-- the saturating conversion `cast_num` picks by the target's signedness -/
def fcvtToSat (s : Bool) (w : Nat) (x : FVal) : BitVec w :=
  if s then fcvtToSintSat w x else fcvtToUintSat w x

theorem fcvtToSat_fin {s : Bool} {z : Int} (h : fits w s z) :
    fcvtToSat s w (.fin z) = BitVec.ofInt w z := by
  unfold fits at h
  cases s <;> simp only [fcvtToSat, fcvtToSintSat, fcvtToUintSat] <;>
    rw [clamp_of_mem h.1 h.2] <;> rfl

theorem fcvtToSat_nan (s : Bool) : fcvtToSat s w .nan = BitVec.ofInt w 0 := by
  cases s <;> simp [fcvtToSat, fcvtToSintSat, fcvtToUintSat]

/-- float → int: the saturating conversion at the conversion width, then the ladder by the
target's signedness -/
theorem castNum_float_int {cf ct : NumTy} (hf : cf.float = true) (ht : ct.float = false)
    (x : FVal) :
    castNum cf ct (.f x) = .ok (.i ct.bits (BitVec.ofInt ct.bits
      (valOf ct.signed (fcvtToSat ct.signed (convWidth ct.bits) x)))) := by
  obtain ⟨fb, _, fs⟩ := cf
  obtain ⟨tb, _, ts⟩ := ct
  cases hf
  cases ht
  rw [← ladder_eq]
  simp only [castNum, fcvtToSat]
  generalize convWidth tb = cw
  by_cases heq : cw = tb
  · subst heq
    simp
  · by_cases hlt : cw < tb <;> cases ts <;> simp [heq, hlt]

theorem le_convWidth {b : Nat} (h : b ≤ 64) : b ≤ convWidth b := by
  unfold convWidth
  split <;> omega

theorem convWidth_pos (b : Nat) : 0 < convWidth b := by
  unfold convWidth
  split <;> omega

end CapyV.Num
