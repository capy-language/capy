import CapyV.Model.Abi
import CapyV.Spec.SysV
import CapyV.Proofs.Layout
/-! The compiler's System V classifier and register assignment against the psABI (C19), over the fragment
`frag`: the walk of `classify_eight_byte` is `mergeAll` of the flattened scalars, merging keeps the class array
equal to the psABI class of each eightbyte, and the component types `push_direct` picks carry those classes.
Last, the accesses of the `Cast` load / store loops end where the component widths add up to. -/
namespace CapyV.Abi
open CapyV CapyV.Layout CapyV.SysV

/-- psABI class ↦ the code's `Class` (MEMORY never occurs per eightbyte in the fragment) -/
def toClass : PClass → Class
  | .noClass => .noClass
  | .integer => .int
  | .sse => .sse
  | .memory => .noClass

mutual
/-- The fragment of C19: integers of width 8…64 and pointer-sized, bool, char, f32, f64,
pointers (`^T`, `rawptr`, `str`, function pointers), optional pointers, non-empty arrays and
non-empty structs of those (nested), distinct wrappers. At array nodes the guard
`size ≤ stride` is what C17's `stride_rounds_up` proves for every well-formed type whose
size fits `u32` arithmetic. -/
def frag : Ty → Bool
  | .iint w | .uint w => w == 8 || w == 16 || w == 32 || w == 64 || w == 255
  | .float w => w == 32 || w == 64
  | .bool | .char | .string | .rawPtr _ | .pointer _ _ | .fnPointer _ _ => true
  | .optional s => s.isPointer
  | .concreteArray n s | .anonArray n s => decide (1 ≤ n) && frag s && decide (size 64 s ≤ strideOf 64 s)
  | .concreteStruct _ ms | .anonStruct ms => fragMembers ms && decide (ms ≠ .nil)
  | .distinct _ s => frag s
  | _ => false
def fragMembers : Members → Bool
  | .nil => true
  | .cons _ t r => frag t && fragMembers r
end

/-- `classes[o/8] = classes[o/8].merge(c)` for every flattened scalar, in order -/
def mergeAll : List (Nat × PClass) → List Class → Option (List Class)
  | [], cls => some cls
  | (o, c) :: rest, cls =>
    match mergeAt cls (o / 8) (toClass c) with
    | none => none
    | some cls' => mergeAll rest cls'

theorem mergeAll_singleton (o : Nat) (c : PClass) (cls : List Class) :
    mergeAll [(o, c)] cls = mergeAt cls (o / 8) (toClass c) := by
  simp only [mergeAll]
  cases mergeAt cls (o / 8) (toClass c) <;> rfl

theorem mergeAll_append (l1 l2 : List (Nat × PClass)) (cls : List Class) :
    mergeAll (l1 ++ l2) cls = (mergeAll l1 cls).bind (mergeAll l2) := by
  induction l1 generalizing cls with
  | nil => simp [mergeAll]
  | cons p rest ih =>
    obtain ⟨o, c⟩ := p
    simp only [List.cons_append, mergeAll]
    cases mergeAt cls (o / 8) (toClass c) with
    | none => simp
    | some c' => simpa using ih c'

theorem forRange_walk (f : List Class → Nat → Option (List Class)) (g : Nat → List (Nat × PClass))
    (hfg : ∀ cls off, f cls off = mergeAll (g off) cls) (stride off : Nat) :
    ∀ k idx cls, forRange f stride off k idx cls = mergeAll (arrayScalars g stride off k idx) cls := by
  intro k
  induction k with
  | zero =>
    intro idx cls
    simp [forRange, arrayScalars, mergeAll]
  | succ k ih =>
    intro idx cls
    simp only [forRange, arrayScalars, mergeAll_append, hfg]
    cases mergeAll (g (off + idx * stride)) cls with
    | none => simp
    | some c => simpa using ih (idx + 1) c

/-- A scalar type of the fragment as its three readers see it: one field of class `c` to the psABI,
one merge to `classify_eight_byte`, one Cranelift value of type `ty` to `fn_ty_to_abi`. -/
structure Scalar (t : Ty) (c : PClass) (ty : IrTy) : Prop where
  cls : c = .integer ∨ c = .sse
  scalars : ∀ off, scalars t off = [(off, c)]
  walk : ∀ cls off, classifyEightByte 64 t cls off = mergeAt cls (off / 8) (toClass c)
  size_pos : 0 < size 64 t
  size_le : size 64 t ≤ 8
  -- with `size_le`: a scalar that finds no register takes one 8-byte stack slot, in the code and in the psABI
  sizeofC : roundUp8 (sizeofC t) = 8
  notZero : t.isZeroSized = false
  real : realTy 64 t = some ty
  isFloat : ty.isFloat = (c == .sse)
  ne128 : ty ≠ .i128

theorem intArm_small {t : Ty} (cls : List Class) (off : Nat) (h : size 64 t ≤ 8) :
    intArm 64 t cls off = mergeAt cls (off / 8) .int := by
  unfold intArm
  cases mergeAt cls (off / 8) .int with
  | none => rfl
  | some c =>
    simp
    omega

theorem Scalar.float {w : Nat} (h : frag (.float w) = true) : ∃ ty, Scalar (.float w) .sse ty := by
  simp [frag] at h
  rcases h with h | h <;> subst h <;>
    exact ⟨_, {
      cls := .inr rfl, scalars := fun _ => rfl, walk := fun _ _ => rfl, size_pos := (by decide),
      size_le := (by decide), sizeofC := (by decide), notZero := rfl, real := rfl, isFloat := rfl,
      ne128 := (by decide) }⟩

/-- An INTEGER scalar that is naturally aligned and at most eight bytes wide: integers, `bool`, `char` and
everything pointer-shaped, whatever the pointee, so each hypothesis holds by unfolding. -/
theorem Scalar.ofLayout {t : Ty} {ty : IrTy} {a : Nat} (hs : ∀ off, SysV.scalars t off = [(off, .integer)])
    (hw : ∀ cls off, classifyEightByte 64 t cls off = intArm 64 t cls off)
    (hl : layout 64 t = (a, a)) (ha : Pow2Le8 a)
    (hz : t.isZeroSized = false) (hr : realTy 64 t = some ty)
    (hf : ty.isFloat = false) (h128 : ty ≠ .i128) : Scalar t .integer ty := by
  have h1 : size 64 t = a := congrArg Prod.fst hl
  have h2 : align 64 t = a := congrArg Prod.snd hl
  have := ha.pos
  have := ha.le
  refine {
    cls := .inl rfl, scalars := hs, walk := fun cls off => (by rw [hw, intArm_small _ _ (by omega)]; rfl),
    size_pos := (by omega), size_le := (by omega), sizeofC := ?_, notZero := hz, real := hr, isFloat := hf,
    ne128 := h128 }
  unfold SysV.sizeofC strideOf
  rw [h1, h2]
  rcases ha with rfl | rfl | rfl | rfl <;> decide

theorem Scalar.int {t : Ty} {w : Nat} (ht : t = .iint w ∨ t = .uint w) (h : frag t = true) :
    ∃ ty, Scalar t .integer ty := by
  rcases ht with rfl | rfl <;> simp [frag] at h <;>
    rcases h with (((h | h) | h) | h) | h <;> subst h <;>
    exact ⟨_, .ofLayout (fun _ => rfl) (fun _ _ => rfl) rfl (by unfold Pow2Le8; decide) rfl rfl rfl (by decide)⟩

theorem Scalar.optional {s : Ty} (h : s.isPointer = true) : Scalar (.optional s) .integer .i64 :=
  .ofLayout (fun _ => rfl) (by simp [classifyEightByte, classifyEightByteG, Ty.isNonZero, h])
    (by simp [layout, Ty.isNonZero, h, isPointer_layout 64 s h]) (.inr (.inr (.inr rfl))) rfl rfl rfl (by decide)

/-- a `distinct` wrapper is transparent to all three readers: every field unfolds to that of `s` -/
theorem Scalar.distinct {s : Ty} {c : PClass} {ty : IrTy} (h : Scalar s c ty) (uid : Nat) :
    Scalar (.distinct uid s) c ty :=
  ⟨h.cls, h.scalars, h.walk, h.size_pos, h.size_le, h.sizeofC, h.notZero, h.real, h.isFloat, h.ne128⟩

/-- A non-empty array of the fragment (`[n]T` or the type of an array literal) as its readers see it. -/
structure ArrayOf (t : Ty) (n : Nat) (s : Ty) : Prop where
  pos : 1 ≤ n
  le : size 64 s ≤ strideOf 64 s
  size : size 64 t = strideOf 64 s * n
  scalars : ∀ off, scalars t off = arrayScalars (scalars s) (strideOf 64 s) off n 0
  walk : ∀ cls off, classifyEightByte 64 t cls off = forRange (classifyEightByte 64 s) (strideOf 64 s) off n 0 cls
  notZero : s.isZeroSized = false → t.isZeroSized = false
  agg : t.isAggregate = true

/-- A non-empty struct of the fragment (named or anonymous) as its readers see it. -/
structure StructOf (t : Ty) (ms : Members) : Prop where
  ne : ms ≠ .nil
  size : size 64 t = (structLayout 64 ms 0 1).1
  scalars : ∀ off, scalars t off = memberScalars ms (structOffsets 64 ms 0) off
  walk : ∀ cls off, classifyEightByte 64 t cls off = classifyMembers 64 ms (structOffsets 64 ms 0) cls off
  notZero : Ty.membersAllZeroSized ms = false → t.isZeroSized = false
  agg : t.isAggregate = true

/-- The cases of an induction over the fragment (`FragCases.both`). -/
structure FragCases (P : Ty → Prop) (Q : Members → Prop) : Prop where
  scalar : ∀ {t c ty}, Scalar t c ty → P t
  array : ∀ {t n s}, ArrayOf t n s → P s → P t
  struct : ∀ {t ms}, StructOf t ms → Q ms → P t
  distinct : ∀ {uid s}, P s → P (.distinct uid s)
  nil : Q .nil
  cons : ∀ {n t r}, P t → Q r → Q (.cons n t r)

theorem FragCases.both {P Q} (c : FragCases P Q) :
    (∀ t, frag t = true → P t) ∧ ∀ ms, fragMembers ms = true → Q ms := by
  have byte : Pow2Le8 1 := .inl rfl
  have ptr : Pow2Le8 8 := .inr (.inr (.inr rfl))
  have arr : ∀ {t : Ty} {n : Nat} {s : Ty}, t = .concreteArray n s ∨ t = .anonArray n s → (frag s = true → P s) →
      (decide (1 ≤ n) && frag s && decide (size 64 s ≤ strideOf 64 s)) = true → P t := fun ht ih h => by
    simp only [Bool.and_eq_true, decide_eq_true_eq] at h
    rcases ht with rfl | rfl <;>
      exact c.array {
        pos := h.1.1, le := h.2, size := rfl, scalars := fun _ => rfl, walk := fun _ _ => if_pos (Nat.ne_of_gt h.1.1),
        notZero := fun hs => by simp [Ty.isZeroSized, hs, Nat.ne_of_gt h.1.1], agg := rfl } (ih h.1.2)
  have str : ∀ {t : Ty} {ms : Members}, (∃ uid, t = .concreteStruct uid ms) ∨ t = .anonStruct ms →
      (fragMembers ms = true → Q ms) → (fragMembers ms && decide (ms ≠ .nil)) = true → P t := fun ht ih h => by
    simp only [Bool.and_eq_true, decide_eq_true_eq] at h
    rcases ht with ⟨_, rfl⟩ | rfl <;>
      exact c.struct {
        ne := h.2, size := rfl, scalars := fun _ => rfl, walk := fun _ _ => rfl,
        notZero := by simp [Ty.isZeroSized], agg := rfl } (ih h.1)
  exact frag.mutual_induct (fun t => frag t = true → P t) (fun ms => fragMembers ms = true → Q ms)
    (fun _ h => (Scalar.int (.inl rfl) h).elim fun _ => c.scalar) -- iint
    (fun _ h => (Scalar.int (.inr rfl) h).elim fun _ => c.scalar) -- uint
    (fun _ h => (Scalar.float h).elim fun _ => c.scalar) -- float
    (fun _ => c.scalar (.ofLayout (fun _ => rfl) (fun _ _ => rfl) rfl byte rfl rfl rfl (by decide))) -- bool
    (fun _ => c.scalar (.ofLayout (fun _ => rfl) (fun _ _ => rfl) rfl byte rfl rfl rfl (by decide))) -- char
    (fun _ => c.scalar (.ofLayout (fun _ => rfl) (fun _ _ => rfl) rfl ptr rfl rfl rfl (by decide))) -- string
    (fun _ _ => c.scalar (.ofLayout (fun _ => rfl) (fun _ _ => rfl) rfl ptr rfl rfl rfl (by decide))) -- rawPtr
    (fun _ _ _ => c.scalar (.ofLayout (fun _ => rfl) (fun _ _ => rfl) rfl ptr rfl rfl rfl (by decide))) -- pointer
    (fun _ _ _ => c.scalar (.ofLayout (fun _ => rfl) (fun _ _ => rfl) rfl ptr rfl rfl rfl (by decide))) -- fnPointer
    (fun _ h => c.scalar (Scalar.optional h)) -- optional
    (fun _ _ ih h => arr (.inl rfl) ih h) -- concreteArray
    (fun _ _ ih h => arr (.inr rfl) ih h) -- anonArray
    (fun uid _ ih h => str (.inl ⟨uid, rfl⟩) ih h) -- concreteStruct
    (fun _ ih h => str (.inr rfl) ih h) -- anonStruct
    (fun _ _ ih h => c.distinct (ih h)) -- distinct
    -- The cases stand in the order of the arms of `frag`, and `frag.eq_16` is its catch-all arm (`h1 … h15` say
    -- that `t` is none of the constructors above): reordering the arms of `frag` breaks both.
    (fun t h1 h2 h3 h4 h5 h6 h7 h8 h9 h10 h11 h12 h13 h14 h15 h => by
      rw [frag.eq_16 t h1 h2 h3 h4 h5 h6 h7 h8 h9 h10 h11 h12 h13 h14 h15] at h
      cases h)
    (fun _ => c.nil) -- Members.nil
    (fun _ _ _ iht ihr h => by -- Members.cons
      simp only [fragMembers, Bool.and_eq_true] at h
      exact c.cons (iht h.1) (ihr h.2))

theorem FragCases.ty {P Q} (c : FragCases P Q) : (t : Ty) → frag t = true → P t := c.both.1

theorem FragCases.members {P Q} (c : FragCases P Q) : (ms : Members) → fragMembers ms = true → Q ms := c.both.2

theorem walkCases : FragCases
    (fun t => ∀ cls off, classifyEightByte 64 t cls off = mergeAll (scalars t off) cls)
    (fun ms => ∀ cur cls off, classifyMembers 64 ms (structOffsets 64 ms cur) cls off =
      mergeAll (memberScalars ms (structOffsets 64 ms cur) off) cls) where
  scalar h cls off := by rw [h.walk, h.scalars, mergeAll_singleton]
  array h ih cls off := by
    rw [h.walk, h.scalars]
    exact forRange_walk _ _ ih _ _ _ 0 cls
  struct h ih cls off := by
    rw [h.walk, h.scalars]
    exact ih 0 cls off
  distinct ih := ih
  nil _ _ _ := rfl
  cons iht ihr cur cls off := by
    simp only [classifyMembers, classifyMembersG, structOffsets, memberScalars, mergeAll_append]
    rw [show classifyEightByteG true 64 _ = classifyEightByte 64 _ from rfl, iht]
    cases mergeAll (scalars _ _) cls with
    | none => simp
    | some c => simpa using ihr _ c off

theorem walk_members : (ms : Members) → fragMembers ms = true → ∀ cur cls off,
    classifyMembers 64 ms (structOffsets 64 ms cur) cls off =
      mergeAll (memberScalars ms (structOffsets 64 ms cur) off) cls :=
  walkCases.members

theorem size_struct (pw uid : Nat) (ms : Members) :
    size pw (.concreteStruct uid ms) = (structLayout pw ms 0 1).1 ∧
    size pw (.anonStruct ms) = (structLayout pw ms 0 1).1 :=
  ⟨rfl, rfl⟩

theorem padNeeded_zero (a : Nat) : padNeeded 0 a = 0 := by simp [padNeeded]

/-- The flattened scalar `p = (offset, class)` lies inside `[lo, hi)` and is INTEGER or SSE. -/
def ScalarOk (lo hi : Nat) (p : Nat × PClass) : Prop :=
  lo ≤ p.1 ∧ p.1 < hi ∧ (p.2 = .integer ∨ p.2 = .sse)

theorem ScalarOk.mono {lo hi lo' hi' : Nat} {p : Nat × PClass} (h : ScalarOk lo hi p)
    (h1 : lo' ≤ lo) (h2 : hi ≤ hi') : ScalarOk lo' hi' p :=
  ⟨Nat.le_trans h1 h.1, Nat.lt_of_lt_of_le h.2.1 h2, h.2.2⟩

theorem arrayScalars_ok (g : Nat → List (Nat × PClass)) (sz stride off : Nat) (hle : sz ≤ stride)
    (hg : ∀ o, ∀ p ∈ g o, ScalarOk o (o + sz) p) :
    ∀ k idx, ∀ p ∈ arrayScalars g stride off k idx,
      ScalarOk (off + idx * stride) (off + (idx + k) * stride) p := by
  intro k
  induction k with
  | zero =>
    intro idx p hp
    simp [arrayScalars] at hp
  | succ k ih =>
    intro idx p hp
    have e : (idx + 1 + k) * stride = (idx + (k + 1)) * stride := by rw [Nat.add_right_comm, Nat.add_assoc]
    rcases List.mem_append.1 hp with hp | hp
    · refine (hg _ p hp).mono (Nat.le_refl _) ?_
      simp only [Nat.add_mul, Nat.one_mul]
      omega
    · refine (ih (idx + 1) p hp).mono ?_ (by rw [e]; omega)
      simp only [Nat.add_mul, Nat.one_mul]
      omega

theorem okCases : FragCases
    (fun t => 0 < size 64 t ∧ ∀ off, ∀ p ∈ scalars t off, ScalarOk off (off + size 64 t) p)
    (fun ms => ∀ cur ma, (ms ≠ .nil → cur < (structLayout 64 ms cur ma).1) ∧
      ∀ off, ∀ p ∈ memberScalars ms (structOffsets 64 ms cur) off,
        ScalarOk (off + cur) (off + (structLayout 64 ms cur ma).1) p) where
  scalar h := ⟨h.size_pos, fun off p hp => by
    rw [h.scalars, List.mem_singleton] at hp
    subst hp
    exact ⟨Nat.le_refl _, Nat.lt_add_of_pos_right h.size_pos, h.cls⟩⟩
  array := @fun t n s h ih => by
    rw [h.size]
    refine ⟨Nat.mul_pos (Nat.lt_of_lt_of_le ih.1 h.le) h.pos, fun off p hp => ?_⟩
    simpa [Nat.mul_comm] using arrayScalars_ok _ _ _ off h.le ih.2 n 0 p (h.scalars off ▸ hp)
  struct h ih := by
    rw [h.size]
    exact ⟨(ih 0 1).1 h.ne, fun off p hp => by simpa using (ih 0 1).2 off p (h.scalars off ▸ hp)⟩
  distinct ih := ih
  nil cur ma := by simp [memberScalars]
  cons := @fun _ t r iht ihr cur ma => by
    have hge := structLayout_ge 64 r (cur + padNeeded cur (align 64 t) + size 64 t)
      (if align 64 t > ma then align 64 t else ma)
    rw [structLayout_cons]
    refine ⟨fun _ => by omega, fun off p hp => ?_⟩
    simp only [structOffsets, memberScalars, List.mem_append] at hp
    rcases hp with hp | hp
    · exact (iht.2 _ p hp).mono (by omega) (by omega)
    · exact ((ihr _ _).2 off p hp).mono (by omega) (Nat.le_refl _)

theorem scalars_ok (t : Ty) (h : frag t = true) : 0 < size 64 t ∧ ∀ off, ∀ p ∈ scalars t off,
    ScalarOk off (off + size 64 t) p :=
  okCases.ty t h

theorem scalars_integer_or_sse (t : Ty) (h : frag t = true) : ∀ p ∈ scalars t 0, p.2 = .integer ∨ p.2 = .sse :=
  fun p hp => ((scalars_ok t h).2 0 p hp).2.2

theorem members_ok : (ms : Members) → fragMembers ms = true → ∀ cur ma,
    (ms ≠ .nil → cur < (structLayout 64 ms cur ma).1) ∧
    ∀ off, ∀ p ∈ memberScalars ms (structOffsets 64 ms cur) off,
      ScalarOk (off + cur) (off + (structLayout 64 ms cur ma).1) p :=
  okCases.members

theorem headCases : FragCases
    (fun t => ∀ off, ∃ c rest, scalars t off = (off, c) :: rest)
    (fun ms => ms ≠ .nil → ∀ off, ∃ c rest, memberScalars ms (structOffsets 64 ms 0) off = (off, c) :: rest) where
  scalar h off := ⟨_, [], h.scalars off⟩
  array := @fun _ n _ h ih off => by
    obtain ⟨c, rest, hc⟩ := ih off
    obtain ⟨n, rfl⟩ : ∃ m, n = m + 1 := ⟨n - 1, by have := h.pos; omega⟩
    refine ⟨c, ?_⟩
    simp [h.scalars, arrayScalars, hc]
  struct h ih off := by
    rw [h.scalars]
    exact ih h.ne off
  distinct ih := ih
  nil h := absurd rfl h
  cons iht _ _ off := by
    obtain ⟨c, rest, hc⟩ := iht off
    refine ⟨c, ?_⟩
    simp [memberScalars, structOffsets, padNeeded_zero, hc]

theorem notZeroCases : FragCases (fun t => t.isZeroSized = false)
    (fun ms => ms ≠ .nil → Ty.membersAllZeroSized ms = false) where
  scalar h := h.notZero
  array h ih := h.notZero ih
  struct h ih := h.notZero (ih h.ne)
  distinct ih := ih
  nil h := absurd rfl h
  cons iht _ _ := by simp [Ty.membersAllZeroSized, iht]

theorem frag_not_zero (t : Ty) (h : frag t = true) : t.isZeroSized = false :=
  notZeroCases.ty t h

theorem members_not_zero : (ms : Members) → fragMembers ms = true → ms ≠ .nil →
    Ty.membersAllZeroSized ms = false :=
  notZeroCases.members

theorem scalar_of_not_aggregate (t : Ty) (h : frag t = true) : t.isAggregate = false → ∃ c ty, Scalar t c ty :=
  FragCases.ty (P := fun t => t.isAggregate = false → ∃ c ty, Scalar t c ty) (Q := fun _ => True)
    { scalar := fun h _ => ⟨_, _, h⟩
      array := fun h _ ha => by cases h.agg.symm.trans ha
      struct := fun h _ ha => by cases h.agg.symm.trans ha
      distinct := fun ih ha =>
        have ⟨c, ty, hs⟩ := ih ha
        ⟨c, ty, hs.distinct _⟩
      nil := trivial
      cons := fun _ _ => trivial } t h

theorem eightbyteClass_snoc (fs : List (Nat × PClass)) (o : Nat) (c : PClass) (k : Nat) :
    eightbyteClass (fs ++ [(o, c)]) k =
      if o / 8 = k then (eightbyteClass fs k).merge c else eightbyteClass fs k := by
  by_cases h : o / 8 = k <;> simp [eightbyteClass, List.filter_append, h]

theorem eightbyteClass_beyond {fs : List (Nat × PClass)} {k : Nat} (h : ∀ p ∈ fs, p.1 / 8 ≠ k) :
    eightbyteClass fs k = .noClass := by
  have : fs.filter (fun p => p.1 / 8 == k) = [] := by simpa [List.filter_eq_nil_iff] using h
  simp [eightbyteClass, this]

theorem merge_ne_memory {a b : PClass} (ha : a ≠ .memory) (hb : b ≠ .memory) : a.merge b ≠ .memory := by
  cases a <;> cases b <;> simp_all [PClass.merge]

theorem eightbyteClass_ne_memory {fs : List (Nat × PClass)} (h : ∀ p ∈ fs, p.2 = .integer ∨ p.2 = .sse)
    (k : Nat) : eightbyteClass fs k ≠ .memory := by
  refine List.foldlRecOn _ PClass.merge (motive := (· ≠ .memory)) (b := .noClass) (by decide)
    fun a ha c hc => merge_ne_memory ha ?_
  obtain ⟨p, hp, rfl⟩ := List.mem_map.1 hc
  rcases h p (List.mem_filter.1 hp).1 with h | h <;> simp [h]

/-- away from MEMORY (where `toClass` has no counterpart) the code's merge is the psABI's -/
theorem toClass_merge {a b : PClass} (ha : a ≠ .memory) (hb : b ≠ .memory) :
    (toClass a).merge (toClass b) = toClass (a.merge b) := by
  cases a <;> cases b <;> simp_all [toClass, Class.merge, PClass.merge]

theorem mergeAt_tabulate {f : Nat → Class} {n i : Nat} {c : Class} (hi : i < n) :
    mergeAt ((List.range n).map f) i c =
      some ((List.range n).map fun k => if i = k then (f i).merge c else f k) := by
  simp only [mergeAt, List.length_map, List.length_range, hi, dite_true, Option.some.injEq]
  apply List.ext_getElem (by simp)
  intro k h1 h2
  simp only [List.getElem_set, List.getElem_map, List.getElem_range]

/-- The invariant of the walk: the code's array holds, entry by entry, the psABI class of that
eightbyte as merged from the scalars seen so far (`fs`). -/
theorem mergeAll_classes (n : Nat) (l : List (Nat × PClass)) : ∀ fs : List (Nat × PClass),
    (∀ p ∈ fs ++ l, p.2 = .integer ∨ p.2 = .sse) → (∀ p ∈ l, p.1 / 8 < n) →
    mergeAll l ((List.range n).map fun k => toClass (eightbyteClass fs k)) =
      some ((List.range n).map fun k => toClass (eightbyteClass (fs ++ l) k)) := by
  induction l with
  | nil =>
    intro fs _ _
    simp [mergeAll]
  | cons p rest ih =>
    intro fs hc hb
    obtain ⟨o, c⟩ := p
    rw [List.append_cons] at hc ⊢
    have hreg : ∀ q ∈ fs ++ [(o, c)], q.2 = .integer ∨ q.2 = .sse := fun q hq => hc q (List.mem_append_left _ hq)
    have hcm : c ≠ .memory := by
      have h : c = .integer ∨ c = .sse := hreg (o, c) (List.mem_append_right _ List.mem_cons_self)
      rcases h with rfl | rfl <;> decide
    have e : ∀ k, (if o / 8 = k then (toClass (eightbyteClass fs (o / 8))).merge (toClass c)
        else toClass (eightbyteClass fs k)) = toClass (eightbyteClass (fs ++ [(o, c)]) k) := fun k => by
      rw [eightbyteClass_snoc]
      split
      · subst_vars
        exact toClass_merge (eightbyteClass_ne_memory (fun q hq => hreg q (List.mem_append_left _ hq)) _) hcm
      · rfl
    rw [mergeAll, mergeAt_tabulate (hb (o, c) List.mem_cons_self)]
    simp only [e]
    exact ih _ hc fun q hq => hb q (List.mem_cons_of_mem _ hq)

/-- the eight classes the code keeps: the psABI classes of the object's eightbytes, NO_CLASS beyond -/
def pad8 (cs : List PClass) : List Class := cs.map toClass ++ List.replicate (8 - cs.length) .noClass

/-- what `classify_arg` must return for a psABI classification -/
def ofPsabi : Option (List PClass) → ArgClass
  | none => .memory
  | some cs => .classes (pad8 cs)

theorem pad8_length {cs : List PClass} (h : cs.length ≤ 8) : (pad8 cs).length = 8 := by
  simp only [pad8, List.length_append, List.length_map, List.length_replicate]
  omega

theorem classes_eq_pad8 {fs : List (Nat × PClass)} {m : Nat} (hm : m ≤ 8) (h : ∀ p ∈ fs, p.1 / 8 < m) :
    ((List.range 8).map fun k => toClass (eightbyteClass fs k)) = pad8 ((List.range m).map (eightbyteClass fs)) := by
  apply List.ext_getElem (by rw [pad8_length (by simp; omega)]; simp)
  intro k h1 _
  simp only [pad8, List.getElem_map, List.getElem_range, List.getElem_append, List.length_map, List.length_range,
    List.getElem_replicate]
  split
  · rfl
  · rw [eightbyteClass_beyond fun p hp => ?_]
    · rfl
    · have := h p hp; omega

theorem pad8_ne_sseUp (cs : List PClass) : ∀ c ∈ pad8 cs, c ≠ .sseUp := by
  intro c hc
  rcases List.mem_append.1 hc with h | h
  · obtain ⟨a, _, rfl⟩ := List.mem_map.1 h
    cases a <;> simp [toClass]
  · rw [(List.mem_replicate.1 h).2]
    decide

theorem fixup_id (n : Nat) : ∀ fuel i (cls : List Class), (∀ c ∈ cls, c ≠ .sseUp) → fixup n fuel i cls = cls := by
  intro fuel
  induction fuel with
  | zero =>
    intro i cls _
    rfl
  | succ fuel ih =>
    intro i cls h
    have hi : cls.getD i .noClass ≠ .sseUp := by
      rw [List.getD_eq_getElem?_getD]
      cases e : cls[i]? with
      | none => decide
      | some c => exact h c (List.mem_of_getElem? e)
    simp only [fixup, hi, if_false]
    split
    · split <;> exact ih _ _ h
    · rfl

/-- the psABI classes of the eightbytes of `t` -/
abbrev eightbyteClasses (t : Ty) : List PClass :=
  (List.range ((size 64 t + 7) / 8)).map (eightbyteClass (scalars t 0))

theorem classifyEightByte_noClass8 (t : Ty) (h : frag t = true) (h8 : (size 64 t + 7) / 8 ≤ 8) :
    classifyEightByte 64 t noClass8 0 = some (pad8 (eightbyteClasses t)) := by
  have hok := (scalars_ok t h).2 0
  have hlt : ∀ p ∈ scalars t 0, p.1 / 8 < (size 64 t + 7) / 8 := fun p hp => by
    have := (hok p hp).2.1; omega
  rw [walkCases.ty t h, show noClass8 = (List.range 8).map fun k => toClass (eightbyteClass [] k) by decide,
    mergeAll_classes 8 _ [] (fun p hp => (hok p (by simpa using hp)).2.2) (fun p hp => by have := hlt p hp; omega),
    List.nil_append, classes_eq_pad8 h8 hlt]

/-- The post-merger part of `classify_arg` on an array without SSEUP: MEMORY above two eightbytes
(an SSE eightbyte would need SSEUP behind it), otherwise the array as it is. -/
theorem postMerger {n : Nat} {cls : List Class} (h : ∀ c ∈ cls, c ≠ .sseUp) (hlen : 2 ≤ cls.length) :
    (if n > 2 then
        if cls.getD 0 .noClass ≠ .sse then ArgClass.memory
        else if ((cls.drop 1).take (n - 1)).any (· ≠ .sseUp) then .memory
        else .classes cls
      else .classes (fixup n 6 0 cls)) = if n > 2 then .memory else .classes cls := by
  split
  · split
    · rfl
    · rw [if_pos]
      obtain ⟨c, hc⟩ := List.exists_mem_of_length_pos (l := (cls.drop 1).take (n - 1))
        (by rw [List.length_take, List.length_drop]; omega)
      exact List.any_eq_true.2 ⟨c, hc, by simpa using h c (List.mem_of_mem_drop (List.mem_of_mem_take hc))⟩
  · rw [fixup_id _ _ _ _ h]

theorem classifyArg_frag (t : Ty) (h : frag t = true) :
    classifyArg 64 t = if (size 64 t + 7) / 8 > 2 then .memory else .classes (pad8 (eightbyteClasses t)) := by
  unfold classifyArg classifyArgG
  by_cases h8 : (size 64 t + 7) / 8 > 8
  · simp only [if_pos h8, if_pos (show (size 64 t + 7) / 8 > 2 by omega)]
  · simp only [if_neg h8, classifyEightByte_noClass8 t h (by omega)]
    exact postMerger (pad8_ne_sseUp _) (by rw [pad8_length (by simp; omega)]; omega)

/-- `hn` bridges C's `sizeof` (Capy's stride), in which the psABI counts eightbytes, and Capy's `size`, in which the
code counts them; `Good.eightbytes` discharges it. -/
theorem classify_frag (t : Ty) (h : frag t = true) (hn : SysV.eightbytes t = (size 64 t + 7) / 8) :
    SysV.classify t = if (size 64 t + 7) / 8 > 2 then none else some (eightbyteClasses t) := by
  have hmem : ∀ k, (eightbyteClass (scalars t 0) k == PClass.memory) = false := fun k => by
    simpa using eightbyteClass_ne_memory (scalars_integer_or_sse t h) k
  have hC : sizeofC t > 16 ↔ (size 64 t + 7) / 8 > 2 := by unfold SysV.eightbytes at hn; omega
  unfold SysV.classify
  simp only [hn, hC]
  split
  · rfl
  · rw [if_neg (by simp [hmem])]

theorem classifyArg_eq (t : Ty) (h : frag t = true)
    (hn : SysV.eightbytes t = (size 64 t + 7) / 8) :
    classifyArg 64 t = ofPsabi (SysV.classify t) := by
  rw [classifyArg_frag t h, classify_frag t h hn]
  split <;> rfl

/-- The model and the spec each have their own `Loc`, `RetLoc` and `Assignment`, so that the spec mentions nothing of
the model; `convLoc`, `convRet` and `convAssign` identify the two copies. -/
def convLoc : Abi.Loc → SysV.Loc
  | .gpr n => .gpr n
  | .xmm n => .xmm n
  | .stack b => .stack b

def convRet : Abi.RetLoc → SysV.RetLoc
  | .none => .none
  | .sret => .sret
  | .regs l => .regs (l.map convLoc)

def convAssign (a : Abi.Assignment) : SysV.Assignment :=
  { ret := convRet a.ret, args := a.args.map fun (i, l) => (i, l.map convLoc) }

/-- One argument: from `g` integer and `x` vector registers used, the loop body of
`fn_ty_to_abi` (with `6 - g` / `8 - x` registers left) followed by Cranelift's assignment
puts the argument exactly where "Passing" puts it and leaves the same registers. -/
def StepOk (t : Ty) : Prop :=
  ∀ g x, g ≤ 6 → x ≤ 8 →
    ∃ pm g' x' l, argStep true 64 t (6 - g) (8 - x) = some (pm, 6 - g', 8 - x') ∧ g' ≤ 6 ∧ x' ≤ 8 ∧
      clArg pm g x = (l, g', x') ∧ passArg t g x = (l.map convLoc, g', x')

theorem argLoop_eq (ps : List Ty) : ∀ idx g x, g ≤ 6 → x ≤ 8 →
    (∀ t ∈ ps, t.isZeroSized = false ∧ StepOk t) →
    ∃ args, argLoop true 64 ps idx (6 - g) (8 - x) = some args ∧
      (clArgs args g x).map (fun (i, l) => (i, l.map convLoc)) = passArgs ps idx g x := by
  induction ps with
  | nil =>
    intro idx g x _ _ _
    exact ⟨[], rfl, rfl⟩
  | cons t rest ih =>
    intro idx g x hg hx hall
    obtain ⟨hz, hstep⟩ := hall t (by simp)
    obtain ⟨pm, g', x', l, h1, hg', hx', h2, h3⟩ := hstep g x hg hx
    obtain ⟨args, ha1, ha2⟩ := ih (idx + 1) g' x' hg' hx' (fun t' ht' => hall t' (by simp [ht']))
    refine ⟨(pm, idx) :: args, ?_, ?_⟩
    · simp [argLoop, hz, h1, ha1]
    · simp [clArgs, h2, passArgs, h3, ha2]

theorem countClass_pad8 (cs : List PClass) :
    countClass .int (pad8 cs) = SysV.count .integer cs ∧ countClass .sse (pad8 cs) = SysV.count .sse cs := by
  unfold pad8 countClass SysV.count
  simp only [List.filter_append, List.filter_replicate, List.length_append]
  induction cs with
  | nil => exact ⟨rfl, rfl⟩
  | cons c rest ih => cases c <;> simp_all [toClass]

theorem nextMultipleOf8_eq (n : Nat) : nextMultipleOf8 n = roundUp8 n := rfl

/-- Cranelift component types that carry a list of eightbyte classes: an integer-register type per
INTEGER, a float type per SSE, nothing for NO_CLASS. -/
inductive Carries : List IrTy → List PClass → Prop
  | nil : Carries [] []
  | pad {tys cs} : Carries tys cs → Carries tys (.noClass :: cs)
  | int {ty tys cs} : ty.isFloat = false → ty ≠ .i128 → Carries tys cs → Carries (ty :: tys) (.integer :: cs)
  | sse {ty tys cs} : ty.isFloat = true → Carries tys cs → Carries (ty :: tys) (.sse :: cs)

theorem Carries.append {t1 c1 t2 c2} (h1 : Carries t1 c1) (h2 : Carries t2 c2) : Carries (t1 ++ t2) (c1 ++ c2) := by
  induction h1 with
  | nil => exact h2
  | pad _ ih => exact .pad ih
  | int hf hn _ ih => exact .int hf hn ih
  | sse hf _ ih => exact .sse hf ih

theorem clParam_int (ty : IrTy) (hf : ty.isFloat = false) (h128 : ty ≠ .i128) (g x : Nat) :
    clParam ty g x = if g < 6 then ([.gpr g], g + 1, x) else ([.stack 8], g, x) := by
  simp [clParam, hf, h128]

theorem clParam_float (ty : IrTy) (hf : ty.isFloat = true) (g x : Nat) :
    clParam ty g x = if x < 8 then ([.xmm x], g, x + 1) else ([.stack 8], g, x) := by
  simp [clParam, hf]

theorem Carries.clParams {tys cs} (h : Carries tys cs) : ∀ g x,
    g + SysV.count .integer cs ≤ 6 → x + SysV.count .sse cs ≤ 8 →
    ∃ l, clParams tys g x = (l, g + SysV.count .integer cs, x + SysV.count .sse cs) ∧
      l.map convLoc = assignRegs cs g x := by
  induction h with
  | nil =>
    intro g x _ _
    exact ⟨[], rfl, rfl⟩
  | pad _ ih => exact ih
  | int hf h128 _ ih =>
    intro g x hg hx
    simp [SysV.count] at hg hx
    have hg6 : g < 6 := by omega
    obtain ⟨l, hl, hm⟩ := ih (g + 1) x (by simp [SysV.count]; omega) (by simpa [SysV.count] using hx)
    refine ⟨.gpr g :: l, ?_, ?_⟩
    · simp [Abi.clParams, clParam_int _ hf h128, if_pos hg6, hl, SysV.count]
      omega
    · simp [assignRegs, convLoc, hm]
  | sse hf _ ih =>
    intro g x hg hx
    simp [SysV.count] at hg hx
    have hx8 : x < 8 := by omega
    obtain ⟨l, hl, hm⟩ := ih g (x + 1) (by simpa [SysV.count] using hg) (by simp [SysV.count]; omega)
    refine ⟨.xmm x :: l, ?_, ?_⟩
    · simp [Abi.clParams, clParam_float _ hf, if_pos hx8, hl, SysV.count]
      omega
    · simp [assignRegs, convLoc, hm]

theorem Carries.clRets {tys cs} (h : Carries tys cs) : ∀ g x, (clRets tys g x).map convLoc = assignRegs cs g x := by
  induction h with
  | nil =>
    intro g x
    rfl
  | pad _ ih => exact ih
  | int hf _ _ ih =>
    intro g x
    simp [Abi.clRets, hf, assignRegs, convLoc, ih]
  | sse hf _ ih =>
    intro g x
    simp [Abi.clRets, hf, assignRegs, convLoc, ih]

theorem Carries.clParam_stack {ty c} (h : Carries [ty] [c]) {g x : Nat} (hg : g ≤ 6) (hx : x ≤ 8)
    (hfit : ¬ (g + SysV.count .integer [c] ≤ 6 ∧ x + SysV.count .sse [c] ≤ 8)) :
    clParam ty g x = ([.stack 8], g, x) := by
  cases h with
  | pad h => cases h
  | int hf h128 _ =>
    simp [SysV.count] at hfit
    rw [clParam_int _ hf h128, if_neg (by omega)]
  | sse hf _ =>
    simp [SysV.count] at hfit
    rw [clParam_float _ hf, if_neg (by omega)]

theorem Scalar.carries {t c ty} (h : Scalar t c ty) : Carries [ty] [c] := by
  have hf := h.isFloat
  rcases h.cls with rfl | rfl
  · exact .int hf h.ne128 .nil
  · exact .sse hf .nil

/-- the integer component `reg_component` picks is a real integer register type -/
theorem intComp_ok (sz : Nat) : ∃ ty, (if sz < 8 then intWithByteSize (nextPow2 sz) else intWithByteSize 8) = some ty ∧
    ty.isFloat = false ∧ ty ≠ .i128 := by
  unfold nextPow2
  split
  · split
    · exact ⟨.i8, rfl, rfl, by decide⟩
    · split
      · exact ⟨.i16, rfl, rfl, by decide⟩
      · split
        · exact ⟨.i32, rfl, rfl, by decide⟩
        · exact ⟨.i64, rfl, rfl, by decide⟩
  · exact ⟨.i64, rfl, rfl, by decide⟩

theorem regComponent_noClass {cls : List Class} {i : Nat} (sz : Nat) (h : cls[i]? = some .noClass) :
    regComponent cls i sz = .none := by
  have hi : ¬ i ≥ cls.length := by have := (List.getElem?_eq_some_iff.1 h).1; omega
  simp [regComponent, hi, List.getD_eq_getElem?_getD, h]

theorem regComponent_int {cls : List Class} {i : Nat} (sz : Nat) (h : cls[i]? = some .int) :
    ∃ ty, regComponent cls i sz = .some ty (i + 1) ∧ ty.isFloat = false ∧ ty ≠ .i128 := by
  have hi : ¬ i ≥ cls.length := by have := (List.getElem?_eq_some_iff.1 h).1; omega
  obtain ⟨ty, hty, h1, h2⟩ := intComp_ok sz
  exact ⟨ty, by simp [regComponent, hi, List.getD_eq_getElem?_getD, h, hty], h1, h2⟩

/-- an SSE entry with no SSEUP behind it is one `f32` / `f64` (more would be a vector type: `todo!`) -/
theorem regComponent_sse {cls : List Class} {i : Nat} (sz : Nat) (h : cls[i]? = some .sse)
    (hup : cls[i + 1]? ≠ some .sseUp) :
    ∃ ty, regComponent cls i sz = .some ty (i + 1) ∧ ty.isFloat = true := by
  have hi : ¬ i ≥ cls.length := by have := (List.getElem?_eq_some_iff.1 h).1; omega
  have : (cls.drop (i + 1)).takeWhile (· = .sseUp) = [] := by
    cases e : cls.drop (i + 1) with
    | nil => rfl
    | cons a l =>
      have : cls[i + 1]? = some a := by
        rw [← List.head?_drop, e]
        rfl
      have : a ≠ .sseUp := fun ha => hup (ha ▸ this)
      simp [this]
  refine ⟨if sz = 4 then .f32 else .f64, by simp [regComponent, hi, List.getD_eq_getElem?_getD, h, this], ?_⟩
  split <;> rfl

theorem split_carries (t : Ty) (cs : List PClass) {c0 c1 : PClass} (h0 : c0 = .integer ∨ c0 = .sse)
    (h1 : c1 ≠ .memory) (hcs : cs = [c0] ∧ size 64 t ≤ 8 ∨ cs = [c0, c1] ∧ 8 < size 64 t) :
    ∃ tys, splitAggregate 64 t (pad8 cs) = some tys ∧ Carries tys cs := by
  have hup : ∀ k, (pad8 cs)[k]? ≠ some Class.sseUp := fun k h => pad8_ne_sseUp cs _ (List.mem_of_getElem? h) rfl
  have e0 : (pad8 cs)[0]? = some (toClass c0) := by rcases hcs with ⟨rfl, _⟩ | ⟨rfl, _⟩ <;> rfl
  obtain ⟨lo, hlo, hc0⟩ : ∃ lo, regComponent (pad8 cs) 0 (size 64 t) = .some lo 1 ∧ Carries [lo] [c0] := by
    rcases h0 with rfl | rfl
    · obtain ⟨ty, h, hf, hn⟩ := regComponent_int (size 64 t) e0
      exact ⟨ty, h, .int hf hn .nil⟩
    · obtain ⟨ty, h, hf⟩ := regComponent_sse (size 64 t) e0 (hup 1)
      exact ⟨ty, h, .sse hf .nil⟩
  unfold splitAggregate
  rw [hlo]
  rcases hcs with ⟨rfl, hsz⟩ | ⟨rfl, hsz⟩
  · exact ⟨[lo], by simp only [if_neg (show ¬ size 64 t > 1 * 8 by omega)], hc0⟩
  · simp only [if_pos (show size 64 t > 1 * 8 by omega)]
    have e1 : (pad8 [c0, c1])[1]? = some (toClass c1) := rfl
    cases c1 with
    | memory => exact absurd rfl h1
    | noClass =>
      rw [regComponent_noClass _ e1]
      exact ⟨[lo], rfl, hc0.append (.pad .nil)⟩
    | integer =>
      obtain ⟨ty, h, hf, hn⟩ := regComponent_int (size 64 t - 1 * 8) e1
      rw [h]
      exact ⟨[lo, ty], rfl, hc0.append (.int hf hn .nil)⟩
    | sse =>
      obtain ⟨ty, h, hf⟩ := regComponent_sse (size 64 t - 1 * 8) e1 (hup 2)
      rw [h]
      exact ⟨[lo, ty], rfl, hc0.append (.sse hf .nil)⟩

theorem merge_ne_noClass {a b : PClass} (ha : a ≠ .noClass) : a.merge b ≠ .noClass := by
  cases a <;> cases b <;> simp_all [PClass.merge]

theorem eightbyte0_reg (t : Ty) (h : frag t = true) :
    eightbyteClass (scalars t 0) 0 = .integer ∨ eightbyteClass (scalars t 0) 0 = .sse := by
  have hreg := scalars_integer_or_sse t h
  have hm := eightbyteClass_ne_memory hreg 0
  have hn : eightbyteClass (scalars t 0) 0 ≠ .noClass := by
    obtain ⟨c, rest, hc⟩ := headCases.ty t h 0
    have hc' := hreg (0, c) (by simp [hc])
    rw [hc]
    unfold eightbyteClass
    simp only [List.filter_cons, show ((0 : Nat) / 8 == 0) = true by decide, if_true, List.map_cons, List.foldl_cons]
    refine List.foldlRecOn _ PClass.merge (motive := (· ≠ .noClass)) ?_ fun _ ha _ _ => merge_ne_noClass ha
    rcases hc' with h | h <;> subst h <;> decide
  cases e : eightbyteClass (scalars t 0) 0 <;> simp_all

/-- What `push_direct` builds for a fragment value the psABI classifies `cs`: a pass mode (a cast for an
aggregate, the value itself for a scalar) whose component types carry `cs`. -/
theorem pushDirect_carries (t : Ty) (h : frag t = true) (hn : SysV.eightbytes t = (size 64 t + 7) / 8)
    (cs : List PClass) (hc : SysV.classify t = some cs) :
    ∃ pm tys, pushDirect 64 t (pad8 cs) = some pm ∧ Carries tys cs ∧
      (t.isAggregate = true ∧ pm = .cast tys ∨
        t.isAggregate = false ∧ ∃ ty c, pm = .direct ty ∧ tys = [ty] ∧ cs = [c] ∧ realTy 64 t = some ty ∧
          roundUp8 (sizeofC t) = 8) := by
  have hpos := (scalars_ok t h).1
  rw [classify_frag t h hn] at hc
  split at hc
  · cases hc
  · have hcs : cs = [eightbyteClass (scalars t 0) 0] ∧ size 64 t ≤ 8 ∨
        cs = [eightbyteClass (scalars t 0) 0, eightbyteClass (scalars t 0) 1] ∧ 8 < size 64 t := by
      have : (size 64 t + 7) / 8 = 1 ∨ (size 64 t + 7) / 8 = 2 := by omega
      unfold eightbyteClasses at hc
      rcases this with e | e <;> rw [e] at hc <;> cases hc
      · exact .inl ⟨rfl, by omega⟩
      · exact .inr ⟨rfl, by omega⟩
    cases hagg : t.isAggregate with
    | true =>
      obtain ⟨tys, hs, hcar⟩ := split_carries t cs (eightbyte0_reg t h)
        (eightbyteClass_ne_memory (scalars_integer_or_sse t h) 1) hcs
      exact ⟨.cast tys, tys, by simp [pushDirect, hagg, hs], hcar, .inl ⟨rfl, rfl⟩⟩
    | false =>
      obtain ⟨c, ty, hs⟩ := scalar_of_not_aggregate t h hagg
      have : cs = [c] := by
        rcases hcs with ⟨e, _⟩ | ⟨_, e⟩
        · rw [e, hs.scalars]
          rcases hs.cls with rfl | rfl <;> rfl
        · have := hs.size_le; omega
      subst this
      exact ⟨.direct ty, [ty], by simp [pushDirect, hagg, hs.real], hs.carries,
        .inr ⟨rfl, ty, c, rfl, rfl, rfl, hs.real, hs.sizeofC⟩⟩

theorem clParams_singleton (ty : IrTy) (g x : Nat) : Abi.clParams [ty] g x = clParam ty g x := by
  simp [Abi.clParams]

theorem stepOk_of_frag (t : Ty) (h : frag t = true) (hn : SysV.eightbytes t = (size 64 t + 7) / 8) :
    StepOk t := by
  intro g x hg hx
  unfold argStep passArg
  rw [show classifyArgG true 64 t = _ from classifyArg_eq t h hn]
  -- the witness of both cases that pass the argument in memory (MEMORY class; an aggregate that finds no registers)
  have stack : ∃ pm g' x' l, some (PassMode.indirect (some (nextMultipleOf8 (strideOf 64 t))), 6 - g, 8 - x) =
      some (pm, 6 - g', 8 - x') ∧ g' ≤ 6 ∧ x' ≤ 8 ∧ clArg pm g x = (l, g', x') ∧
      ([SysV.Loc.stack (roundUp8 (sizeofC t))], g, x) = (l.map convLoc, g', x') :=
    ⟨_, g, x, [.stack (nextMultipleOf8 (strideOf 64 t))], rfl, hg, hx, rfl, rfl⟩
  cases hc : SysV.classify t with
  | none => exact stack
  | some cs =>
    obtain ⟨pm, tys, hpush, hcar, hpm⟩ := pushDirect_carries t h hn cs hc
    simp only [ofPsabi, (countClass_pad8 cs).1, (countClass_pad8 cs).2]
    by_cases hfit : g + SysV.count .integer cs ≤ 6 ∧ x + SysV.count .sse cs ≤ 8
    · obtain ⟨l, hl, hm⟩ := hcar.clParams g x hfit.1 hfit.2
      rw [if_pos (by omega), if_pos hfit, hpush]
      refine ⟨pm, _, _, l, by simp [Nat.sub_sub], hfit.1, hfit.2, ?_, by rw [hm]⟩
      rcases hpm with ⟨_, rfl⟩ | ⟨_, ty, c, rfl, rfl, _⟩
      · exact hl
      · rwa [clParams_singleton] at hl
    · rw [if_neg (by omega), if_neg hfit]
      rcases hpm with ⟨ha, _⟩ | ⟨ha, ty, c, rfl, rfl, rfl, hr, hru⟩
      · rw [if_pos ha]
        exact stack
      · -- a scalar that finds no register: Cranelift puts it in an 8-byte stack slot (`Scalar.sizeofC`)
        simp only [ha, Bool.false_eq_true, if_false, hr, Option.map_some]
        exact ⟨_, g, x, [.stack 8], rfl, hg, hx, hcar.clParam_stack hg hx hfit, by simp [convLoc, hru]⟩

/-- a parameter / result type the theorems speak about: in the fragment, well-formed (C17's `wf`),
small enough for the `u32` layout arithmetic (`stride` needs `size + align - 1 < 2 ^ 32` with `align ≤ 8`; `2 ^ 31`
is a round bound below that), and laid out as C lays it out (`cLayoutAgrees`:
no nested struct member with tail padding — only then is `SysV.scalars` the flattening of the C type) -/
def Good (t : Ty) : Prop := frag t = true ∧ wf t = true ∧ size 64 t < 2 ^ 31 ∧ cLayoutAgrees t = true

theorem Good.eightbytes {t : Ty} (h : Good t) : SysV.eightbytes t = (size 64 t + 7) / 8 :=
  have ha : Pow2Le8 (align 64 t) := align_ok 64 (by decide) t h.2.1
  stride_eightbytes ha (by have := ha.le; have := h.2.2.1; omega)

theorem sumBytes_cons (ty : IrTy) (rest : List IrTy) : sumBytes (ty :: rest) = ty.bytes + sumBytes rest := by
  simp only [sumBytes, ← List.sum_eq_foldl, List.map_cons, List.sum_cons]

theorem castAccesses_end (tys : List IrTy) : ∀ off, ∀ a ∈ castAccesses tys off,
    off ≤ a.1 ∧ a.1 + a.2 ≤ off + sumBytes tys := by
  induction tys with
  | nil =>
    intro off a ha
    cases ha
  | cons ty rest ih =>
    intro off a ha
    rw [sumBytes_cons]
    rcases List.mem_cons.1 ha with rfl | ha
    · exact ⟨Nat.le_refl _, by simp only; omega⟩
    · have := ih (off + ty.bytes) a ha; omega

end CapyV.Abi
