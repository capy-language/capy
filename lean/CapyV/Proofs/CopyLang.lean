import CapyV.Model.CopyLang
/-! The copy language of C02: an `update` leaves every other variable's `lookup` alone, overwriting one cell is
`List.set`, and so a step changes only the variable it `writes`. `writes` and `step_frame` are declared in
`CapyV.C02Copy`: the C02 statements cite `writes` under that name. -/
namespace CapyV.C02Copy
open CapyV.Copy

def writes : Op → Option Nat
  | .init x _ => some x
  | .lit x _ => some x
  | .defn _ dst _ => some dst
  | .set x _ _ => some x
  | .assign dst _ => some dst.var
  | .obs _ _ => none

end CapyV.C02Copy

namespace CapyV.Copy

theorem lookup_update_same (x : Nat) (v : List Int) (st : Store) : lookup x (update x v st) = some v := by
  induction st with
  | nil => simp [update, lookup]
  | cons hd tl ih =>
    obtain ⟨y, w⟩ := hd
    by_cases h : x = y
    · simp [update, lookup, h]
    · simp [update, lookup, h, ih]

theorem lookup_update_ne (x y : Nat) (v : List Int) (st : Store) (h : y ≠ x) :
    lookup y (update x v st) = lookup y st := by
  induction st with
  | nil => simp [update, lookup, h]
  | cons hd tl ih =>
    obtain ⟨z, w⟩ := hd
    by_cases hxz : x = z
    · subst hxz
      simp [update, lookup, h]
    · by_cases hyz : y = z
      · simp [update, lookup, hxz, hyz]
      · simp [update, lookup, hxz, hyz, ih]

theorem writePlace_frame {st st' : Store} {x off : Nat} {vs : List Int} (h : writePlace st x off vs = some st')
    (y : Nat) (hy : y ≠ x) : lookup y st' = lookup y st := by
  -- `writePlace` answers `some` only if `x` exists and the cells are in range; then it is an `update` of `x`
  unfold writePlace at h
  split at h
  · simp at h
  · split at h
    · cases h
      exact lookup_update_ne x y _ st hy
    · simp at h

theorem splice_singleton (cells : List Int) (off : Nat) (v : Int) (h : off < cells.length) :
    splice cells off [v] = cells.set off v := by
  simp [splice, List.set_eq_take_append_cons_drop, h]

theorem splice_getElem? (cells : List Int) (off : Nat) (v : Int) (h : off < cells.length) (i : Nat) :
    (splice cells off [v])[i]? = if i = off then some v else cells[i]? := by
  rw [splice_singleton cells off v h, List.getElem?_set]
  by_cases e : off = i
  · subst e
    simp [h]
  · simp [e, Ne.symm e]

end CapyV.Copy

namespace CapyV.C02Copy
open CapyV.Copy

theorem step_frame {st st' : Store} {op : Op} {out : List Int} (h : step st op = some (st', out))
    (y : Nat) (hy : writes op ≠ some y) : lookup y st' = lookup y st := by
  have hne : ∀ x, writes op = some x → y ≠ x := fun x hx e => hy (e ▸ hx)
  cases op with
  | init x cells =>
    cases h
    exact lookup_update_ne x y _ st (hne _ rfl)
  | lit x srcs =>
    simp only [step] at h
    split at h
    · split at h
      · cases h
        exact lookup_update_ne x y _ st (hne _ rfl)
      · simp at h
    · simp at h
  | defn f dst src =>
    simp only [step] at h
    split at h
    · simp at h
    · cases h
      exact lookup_update_ne dst y _ st (hne _ rfl)
  | set x off v =>
    simp only [step, Option.map_eq_some_iff] at h
    obtain ⟨s1, hw, he⟩ := h
    cases he
    exact writePlace_frame hw y (hne _ rfl)
  | assign dst src =>
    simp only [step] at h
    split at h
    · simp at h
    · split at h
      · simp only [Option.map_eq_some_iff] at h
        obtain ⟨s1, hw, he⟩ := h
        cases he
        exact writePlace_frame hw y (hne _ rfl)
      · simp at h
  | obs x off =>
    simp only [step] at h
    split at h
    · cases h
      rfl
    · simp at h

end CapyV.C02Copy
