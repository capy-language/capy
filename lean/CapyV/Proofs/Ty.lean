import CapyV.Model.Ty
/-! `absolute_ty` strips the `distinct` and `enumVariant` wrappers. A fact about a function that ignores
them is proved by cases on `t.absoluteTy`, which is never a wrapper, not by recursion through them. -/
namespace CapyV.Ty

theorem nodes_pos (t : Ty) : 0 < t.nodes := by
  cases t <;> exact Nat.succ_pos _

theorem absoluteTy_ne_wrapper (t : Ty) : (∀ a s, t.absoluteTy ≠ .distinct a s) ∧
    (∀ a b c s d, t.absoluteTy ≠ .enumVariant a b c s d) := by
  fun_induction absoluteTy t with
  | case1 _ _ ih => exact ih
  | case2 _ _ _ _ _ ih => exact ih
  | case3 t hd hv => exact ⟨hd, hv⟩

theorem absoluteTy_congr {α : Sort _} (f : Ty → α) (hd : ∀ u s, f (.distinct u s) = f s)
    (hv : ∀ a b c s d, f (.enumVariant a b c s d) = f s) (t : Ty) : f t.absoluteTy = f t := by
  fun_induction absoluteTy t with
  | case1 u s ih => exact ih.trans (hd u s).symm
  | case2 a b c s d ih => exact ih.trans (hv a b c s d).symm
  | case3 => rfl

theorem absoluteTy_idem (t : Ty) : t.absoluteTy.absoluteTy = t.absoluteTy :=
  absoluteTy_congr _ (fun _ _ => rfl) (fun _ _ _ _ _ => rfl) t

theorem isZeroSized_absoluteTy (t : Ty) : t.absoluteTy.isZeroSized = t.isZeroSized :=
  absoluteTy_congr _ (fun _ _ => rfl) (fun _ _ _ _ _ => rfl) t

theorem absoluteTy_of_isPointer {t : Ty} (h : t.isPointer = true) :
    (∃ m s, t.absoluteTy = .pointer m s) ∨ (∃ m, t.absoluteTy = .rawPtr m) := by
  unfold isPointer at h
  split at h
  · next m s e => exact .inl ⟨m, s, e⟩
  · next m e => exact .inr ⟨m, e⟩
  · cases h

end CapyV.Ty
