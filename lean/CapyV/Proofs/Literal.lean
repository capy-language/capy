import CapyV.Model.Literal
/-! C09. In any radix the checked digit loop of `from_str_radix` computes positional notation and
fails exactly on overflow; `lowerInt_spec` follows for every well-formed spelling. The string and
char lowerings are compared with `specString` by one induction each. A literal below the positive
range of its final type is observed unchanged (`finalValue_of_lt`), whatever the type; the
generated limits and thresholds enter as table facts. -/
namespace CapyV.Literal
open CapyV.Generated

theorem toDigit_eq_digitVal {radix : Nat} {c : Char}
    (hc : (48 ≤ c.toNat ∧ c.toNat ≤ 57) ∧ c.toNat - 48 < radix ∨
      (97 ≤ c.toNat ∧ c.toNat ≤ 122) ∧ c.toNat - 97 + 10 < radix ∨
      (65 ≤ c.toNat ∧ c.toNat ≤ 90) ∧ c.toNat - 65 + 10 < radix) :
    toDigit radix c = some (digitVal c) := by
  simp only [toDigit, digitVal]
  rcases hc with ⟨h, hr⟩ | ⟨h, hr⟩ | ⟨h, hr⟩
  · simp only [if_pos h]
    exact if_pos hr
  · have h0 : ¬(48 ≤ c.toNat ∧ c.toNat ≤ 57) := fun a => absurd (Nat.le_trans h.1 a.2) (by decide)
    simp only [if_neg h0, if_pos h]
    exact if_pos hr
  · have h0 : ¬(48 ≤ c.toNat ∧ c.toNat ≤ 57) := fun a => absurd (Nat.le_trans h.1 a.2) (by decide)
    have h1 : ¬(97 ≤ c.toNat ∧ c.toNat ≤ 122) := fun a => absurd (Nat.le_trans a.1 h.2) (by decide)
    simp only [if_neg h0, if_neg h1, if_pos h]
    exact if_pos hr

theorem sub_lt_of_le_of_lt {n lo hi r : Nat} (h : lo ≤ n ∧ n ≤ hi) (hr : hi < lo + r) : n - lo < r :=
  Nat.sub_lt_left_of_lt_add h.1 (Nat.lt_of_le_of_lt h.2 hr)

theorem toDigit_dec {c : Char} (h : isDecDigit c = true) : toDigit 10 c = some (digitVal c) := by
  simp only [isDecDigit, Bool.and_eq_true, decide_eq_true_eq] at h
  exact toDigit_eq_digitVal (.inl ⟨h, sub_lt_of_le_of_lt h (by decide)⟩)

theorem toDigit_bin {c : Char} (h : isBinDigit c = true) : toDigit 2 c = some (digitVal c) := by
  simp only [isBinDigit, Bool.or_eq_true, decide_eq_true_eq] at h
  refine toDigit_eq_digitVal (.inl ?_)
  rcases h with h | h <;> rw [h] <;> decide

theorem toDigit_hex {c : Char} (h : isHexDigit c = true) : toDigit 16 c = some (digitVal c) := by
  simp only [isHexDigit, Bool.or_eq_true, Bool.and_eq_true, decide_eq_true_eq] at h
  refine toDigit_eq_digitVal ?_
  rcases h with (h | h) | h
  · exact .inl ⟨h, sub_lt_of_le_of_lt h (by decide)⟩
  · exact .inr (.inl ⟨⟨h.1, Nat.le_trans h.2 (by decide)⟩,
      Nat.add_lt_add_right (sub_lt_of_le_of_lt h (by decide : 102 < 97 + 6)) 10⟩)
  · exact .inr (.inr ⟨⟨h.1, Nat.le_trans h.2 (by decide)⟩,
      Nat.add_lt_add_right (sub_lt_of_le_of_lt h (by decide : 70 < 65 + 6)) 10⟩)

theorem parseDigits_spec (radix bound : Nat) (hr : 1 ≤ radix) :
    ∀ (cs : List Char) (acc : Nat), acc < bound →
      (∀ c ∈ cs, toDigit radix c = some (digitVal c)) →
      parseDigits radix bound acc cs =
        if acc * radix ^ cs.length + positional radix (cs.map digitVal) < bound
        then some (acc * radix ^ cs.length + positional radix (cs.map digitVal)) else none := by
  intro cs
  induction cs with
  | nil =>
    intro acc h _
    simp [parseDigits, positional, h]
  | cons c cs ih =>
    intro acc hacc hd
    have hc : toDigit radix c = some (digitVal c) := hd c (by simp)
    have hcs : ∀ c ∈ cs, toDigit radix c = some (digitVal c) := fun x hx => hd x (by simp [hx])
    have hpow : 1 ≤ radix ^ cs.length := Nat.one_le_pow _ _ hr
    have hexp : acc * radix ^ (cs.length + 1) + (digitVal c * radix ^ cs.length + positional radix (cs.map digitVal))
        = (acc * radix + digitVal c) * radix ^ cs.length + positional radix (cs.map digitVal) := by
      rw [Nat.pow_succ, Nat.add_mul, Nat.mul_assoc, Nat.mul_comm (radix ^ cs.length) radix, Nat.add_assoc]
    -- the accumulator never decreases: a step that overflows means the whole value does
    have hge : acc * radix + digitVal c ≤
        (acc * radix + digitVal c) * radix ^ cs.length + positional radix (cs.map digitVal) :=
      Nat.le_trans (Nat.le_mul_of_pos_right _ hpow) (Nat.le_add_right ..)
    simp only [parseDigits, hc, List.length_cons, List.map_cons, positional, List.length_map]
    rw [hexp]
    by_cases h2 : acc * radix + digitVal c < bound
    · rw [if_pos (Nat.lt_of_le_of_lt (Nat.le_add_right ..) h2), if_pos h2]
      exact ih _ h2 hcs
    · rw [if_neg fun h => h2 (Nat.lt_of_le_of_lt hge h), if_neg h2, ite_self]

/-- a digit is not a sign, so the sign handling of `from_str_radix` is not entered -/
theorem fromStrRadix_digits {radix bound : Nat} (hr : 1 ≤ radix) (hb : 0 < bound) {ds : List Char}
    (hne : ds ≠ []) (hd : ∀ c ∈ ds, toDigit radix c = some (digitVal c)) :
    fromStrRadix radix bound ds =
      if positional radix (ds.map digitVal) < bound then some (positional radix (ds.map digitVal))
      else none := by
  cases ds with
  | nil => exact absurd rfl hne
  | cons c cs =>
    have hc := hd c (by simp)
    have h1 : c ≠ '+' := by
      rintro rfl
      cases hc
    have h2 : c ≠ '-' := by
      rintro rfl
      cases hc
    simpa [fromStrRadix, h1, h2] using parseDigits_spec radix bound hr (c :: cs) 0 hb hd

/-- the characters of a decimal part that remain after `replace('_', "")` -/
def strip (m : List Char) : List Char := m.filter (· ≠ '_')

theorem strip_ne_nil {m : List Char} (h : decPart m = true) : strip m ≠ [] := by
  cases m with
  | nil => cases h
  | cons c cs =>
    simp only [decPart, Bool.and_eq_true] at h
    have hc : c ≠ '_' := by
      rintro rfl
      cases h.1
    simp [strip, hc]

theorem strip_digits {m : List Char} (h : decPart m = true) : ∀ c ∈ strip m, isDecDigit c = true := by
  intro x hx
  simp only [strip, List.mem_filter, decide_eq_true_eq] at hx
  cases m with
  | nil => cases h
  | cons c cs =>
    simp only [decPart, Bool.and_eq_true, List.all_eq_true, Bool.or_eq_true, decide_eq_true_eq] at h
    rcases List.mem_cons.mp hx.1 with rfl | hc
    · exact h.1
    · exact (h.2 x hc).resolve_right (by simpa using hx.2)

theorem strip_noE {m : List Char} (h : decPart m = true) : ∀ c ∈ strip m, isE c = false := by
  intro c hc
  have hd := strip_digits h c hc
  simp only [isE, Bool.or_eq_false_iff, decide_eq_false_iff_not]
  constructor <;> (rintro rfl; cases hd)

theorem untilE_noE : ∀ (b : List Char), (∀ c ∈ b, isE c = false) → untilE b = b := by
  intro b
  induction b with
  | nil =>
    intro _
    rfl
  | cons c cs ih =>
    intro h
    have hc : isE c = false := h c (by simp)
    simp [untilE, hc, ih (fun x hx => h x (by simp [hx]))]

theorem splitE_noE : ∀ (a : List Char), (∀ c ∈ a, isE c = false) → splitE a = (a, none) := by
  intro a
  induction a with
  | nil =>
    intro _
    rfl
  | cons c cs ih =>
    intro h
    have hc : isE c = false := h c (by simp)
    simp [splitE, hc, ih (fun x hx => h x (by simp [hx]))]

theorem splitE_append : ∀ (a : List Char) (e : Char) (b : List Char), (∀ c ∈ a, isE c = false) →
    isE e = true → (∀ c ∈ b, isE c = false) → splitE (a ++ e :: b) = (a, some b) := by
  intro a
  induction a with
  | nil =>
    intro e b _ he hb
    simp [splitE, he, untilE_noE b hb]
  | cons c cs ih =>
    intro e b h he hb
    have hc : isE c = false := h c (by simp)
    simp [splitE, hc, ih e b (fun x hx => h x (by simp [hx])) he hb]

/-- `parse::<uN>()` of a stripped decimal part -/
theorem fromStrRadix_dec {m : List Char} (bound : Nat) (hb : 0 < bound) (h : decPart m = true) :
    fromStrRadix 10 bound (strip m) =
      if positional 10 (decDigits m) < bound then some (positional 10 (decDigits m)) else none :=
  fromStrRadix_digits (by decide) hb (strip_ne_nil h) fun c hc => toDigit_dec (strip_digits h c hc)

theorem U64_eq : U64 = 2 ^ 64 := by decide

theorem pow10_ge_U64 {k : Nat} (h : 20 ≤ k) : U64 ≤ 10 ^ k :=
  Nat.le_trans (by decide : U64 ≤ 10 ^ 20) (Nat.pow_le_pow_right (by decide) h)

/-- the std contract of `10_u64.checked_pow`, against which `checkedPow10` is written -/
theorem checkedPow10_contract (e : Nat) :
    checkedPow10 e = if 10 ^ e < U64 then some (10 ^ e) else none := by
  unfold checkedPow10
  by_cases h : e ≤ 19
  · have : 10 ^ e < U64 := by
      have h1 : (10:Nat) ^ e ≤ 10 ^ 19 := Nat.pow_le_pow_right (by decide) h
      have h2 : 10 ^ 19 < U64 := by decide
      omega
    simp [h, this]
  · have : ¬ (10 ^ e < U64) := by
      have := pow10_ge_U64 (k := e) (by omega)
      omega
    simp [h, this]

/-- the checked arithmetic of the exponent branch, on numbers: `M` and `K` are the parsed mantissa
and exponent, and the nested `match` is the `.dec` arm of `lowerInt` once `fromStrRadix_dec` has
rewritten both parses -/
theorem decExp_arith (M K : Nat) :
    (match (if M < U64 then some M else none : Option Nat) with
      | none => Lowered.outOfRange
      | some base =>
        if base = 0 then Lowered.ok 0 else
        match (if K < U32 then some K else none : Option Nat) with
        | none => Lowered.outOfRange
        | some e =>
          match checkedPow10 e with
          | none => Lowered.outOfRange
          | some p =>
            match checkedMul base p with
            | none => Lowered.outOfRange
            | some r => Lowered.ok r) =
      if M * 10 ^ K < U64 then Lowered.ok (M * 10 ^ K) else Lowered.outOfRange := by
  by_cases hM0 : M = 0
  · subst hM0
    simp [U64]
  by_cases hv : M * 10 ^ K < U64
  · -- a product of positive factors that fits: each factor fits, so no check fails
    have hM : M < U64 := Nat.lt_of_le_of_lt (Nat.le_mul_of_pos_right _ (Nat.pow_pos (by decide))) hv
    have hK : K ≤ 19 := by
      apply Nat.le_of_not_lt
      intro h
      have := Nat.mul_le_mul (Nat.pos_of_ne_zero hM0) (pow10_ge_U64 (k := K) h)
      omega
    have hK32 : K < U32 := Nat.lt_of_le_of_lt hK (by decide)
    simp [hM, hM0, hK32, checkedPow10, hK, checkedMul, hv]
  · -- otherwise the last check fails, if none before it does
    simp only [if_neg hv, checkedPow10, checkedMul]
    by_cases hM : M < U64 <;> by_cases hK : K < U32 <;> by_cases hK19 : K ≤ 19 <;>
      simp [hM, hM0, hK, hK19, hv]

/-- the `0x` / `0b` arms of `lower_int_literal` after the prefix is stripped, in the radix -/
theorem lowerInt_prefixed {radix : Nat} (hr : 1 ≤ radix) {isD : Char → Bool}
    (hD : ∀ {c}, isD c = true → toDigit radix c = some (digitVal c)) {ds : List Char}
    (hwf : (!ds.isEmpty && ds.all isD) = true) :
    (match fromStrRadix radix U64 ds with
      | some v => Lowered.ok v
      | none => .outOfRange) =
      if positional radix (ds.map digitVal) < U64 then .ok (positional radix (ds.map digitVal))
      else .outOfRange := by
  obtain ⟨hne, hall⟩ : ds ≠ [] ∧ ∀ c ∈ ds, isD c = true := by
    simpa [Bool.and_eq_true, List.all_eq_true] using hwf
  rw [fromStrRadix_digits hr (by decide) hne fun c hc => hD (hall c hc)]
  by_cases hv : positional radix (ds.map digitVal) < U64 <;> simp only [hv, ↓reduceIte]

/-- on every well-formed spelling the lowering answers the spelled value when it is below 2^64 and
`OutOfRange` otherwise (as of fix 10d2487 without exception). It never panics. -/
theorem lowerInt_spec (s : Spelling) (hwf : s.wf = true) :
    lowerInt s.kind s.text =
      if value s < U64 then .ok (value s) else .outOfRange := by
  cases s with
  | dec m e =>
    cases e with
    | none =>
      have hm : decPart m = true := hwf
      simp only [Spelling.kind, Spelling.text, lowerInt, value]
      -- `lowerInt`, `decDigits` and `strip` spell the same filter, and agree by unfolding
      rw [show m.filter (· ≠ '_') = strip m from rfl, splitE_noE _ (strip_noE hm),
        fromStrRadix_dec U64 (by decide) hm]
      by_cases hv : positional 10 (decDigits m) < U64 <;> simp only [hv, ↓reduceIte]
    | some ux =>
      obtain ⟨up, x⟩ := ux
      obtain ⟨hm, hx⟩ : decPart m = true ∧ decPart x = true := by
        simpa [Spelling.wf, Bool.and_eq_true] using hwf
      have hE : isE (if up then 'E' else 'e') = true := by cases up <;> decide
      have hfilter : (m ++ (if up then 'E' else 'e') :: x).filter (· ≠ '_')
          = strip m ++ (if up then 'E' else 'e') :: strip x := by
        cases up <;> simp [strip, List.filter_append]
      simp only [Spelling.kind, Spelling.text, lowerInt, value]
      rw [hfilter, splitE_append _ _ _ (strip_noE hm) hE (strip_noE hx)]
      simp only [fromStrRadix_dec U64 (by decide) hm, fromStrRadix_dec U32 (by decide) hx]
      exact decExp_arith _ _
  | hex ds => exact lowerInt_prefixed (by decide) toDigit_hex hwf
  | bin ds => exact lowerInt_prefixed (by decide) toDigit_bin hwf

theorem lowerString_spec (htab : ∀ c, escapeString c = specEscape c) : ∀ comps : List Component,
    match specString comps with
    | some t => lowerString comps = (t, [])
    | none => Diag.invalidEscape ∈ (lowerString comps).2
  | [] => rfl
  | .escape e :: rest => by
    have ih := lowerString_spec htab rest
    simp only [specString, lowerString, htab]
    generalize specString rest = r at ih ⊢
    cases specEscape e <;> cases r
    · exact List.mem_cons_self
    · exact List.mem_cons_self
    · exact ih
    · rw [ih]
  | .contents cs :: rest => by
    have ih := lowerString_spec htab rest
    simp only [specString, lowerString]
    generalize specString rest = r at ih ⊢
    cases r
    · exact ih
    · rw [ih]

theorem charLoop_spec (htab : ∀ c, escapeChar c = specEscape c) : ∀ comps : List Component,
    match specString comps with
    | some t => charLoop comps = (t, t.length, [])
    | none => Diag.invalidEscape ∈ (charLoop comps).2.2
  | [] => rfl
  | .escape e :: rest => by
    have ih := charLoop_spec htab rest
    simp only [specString, charLoop, htab]
    generalize specString rest = r at ih ⊢
    cases specEscape e <;> cases r
    · exact List.mem_cons_self
    · exact List.mem_cons_self
    · exact ih
    · rw [ih]
      rfl
  | .contents cs :: rest => by
    have ih := charLoop_spec htab rest
    simp only [specString, charLoop]
    generalize specString rest = r at ih ⊢
    cases r
    · exact ih
    · rw [ih]
      simp only [List.length_append, Nat.add_comm]

theorem mem_lowerChar_of_mem_charLoop {comps : List Component} {d : Diag}
    (h : d ∈ (charLoop comps).2.2) : d ∈ (lowerChar comps).2 := by
  -- every branch returns the loop's diagnostics, at most with one appended
  have h' := fun bs => List.mem_append_left bs h
  simp only [lowerChar, apply_ite Prod.snd, apply_ite (d ∈ ·), h, h', ite_self]

theorem finalValue_of_lt {t : ITy} {n : Nat}
    (h : n < 2 ^ (finalBits t - if finalSigned t then 1 else 0)) : finalValue t n = (n : Int) := by
  have hle : 2 ^ (finalBits t - if finalSigned t then 1 else 0) ≤ 2 ^ finalBits t :=
    Nat.pow_le_pow_right (by decide) (Nat.sub_le _ _)
  simp only [finalValue, Nat.mod_eq_of_lt (Nat.lt_of_lt_of_le h hle)]
  split
  · rename_i hs
    rw [if_pos hs.1] at h
    omega
  · rfl

/-- the exponent of the range of a type: its width, less the sign bit -/
def ITy.rangeBits (t : ITy) : Nat :=
  (if t.width = 255 then 64 else t.width) - if t.signed then 1 else 0

theorem fits_iff (t : ITy) (n : Nat) : fits t n ↔ n < 2 ^ t.rangeBits := by
  unfold fits ITy.rangeBits
  cases t.signed <;> simp

/-- the generated limits: the largest value of the type, capped at the largest literal
(`usize` has no limit of its own) -/
theorem getMaxIntSize_table : ∀ t ∈ allITys,
    (getMaxIntSize t).getD (2 ^ 64 - 1) = min (2 ^ 64 - 1) (2 ^ t.rangeBits - 1) := by
  decide

theorem acceptsAt_iff_le {t : ITy} {n D : Nat} (hn : n ≤ D) :
    acceptsAt t n = true ↔ n ≤ (getMaxIntSize t).getD D := by
  unfold acceptsAt
  cases getMaxIntSize t <;> simp [hn]

theorem finalValue_of_fits {t : ITy} (hw : t.width ≠ 0) {n : Nat} (h : fits t n) :
    finalValue t n = (n : Int) := by
  apply finalValue_of_lt
  simpa only [finalBits, finalSigned, if_neg hw, fits_iff, ITy.rangeBits] using h

/-- the widening arm of `reinfer_expr` on a still-weak literal. `2147483647` and `64` are the
generated `weak*WidenAbove` / `weak*WidenTo` constants, unfolded by `simp`: a regenerated threshold
breaks here first. -/
theorem reinferLit_weak (s : Bool) (n : Nat) :
    reinferLit ⟨s, 0⟩ n = if n > 2147483647 then ⟨s, 64⟩ else ⟨s, 0⟩ := by
  cases s <;>
    simp [reinferLit, weakIIntWidenAbove, weakUIntWidenAbove, weakIIntWidenTo, weakUIntWidenTo]

/-- the type an unannotated literal ends up with; a global's `i32` is never refused because
the widening threshold is `i32`'s maximum -/
theorem defaultTy_eq (global : Bool) (n : Nat) : defaultTy global n =
    some (if n > 2147483647 then ⟨false, 64⟩ else if global then ⟨true, 32⟩ else ⟨false, 0⟩) := by
  rw [defaultTy, reinferLit_weak]
  by_cases hbig : n > 2147483647
  · simp [hbig, ITy.weak]
  · have : acceptsAt ⟨true, 32⟩ n = true := by
      simp only [acceptsAt, getMaxIntSize, getMaxIntSizeI]
      simpa using hbig
    cases global <;> simp [hbig, ITy.weak, this]

end CapyV.Literal
