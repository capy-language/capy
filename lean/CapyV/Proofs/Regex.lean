import CapyV.Spec.Lexer
/-!
# Derivative matcher = denotation; longest-match scan is sound and maximal

Then what single-value classes and literal rules match (used by the sub-lexer proofs). The lemmas
are in namespace `CapyV.Lexer`, where `Matches` is declared.
-/
namespace CapyV.Lexer
open CapyV CapyV.Regex

theorem not_matches_empty {w : List Char} : ¬ Matches .empty w := nofun

theorem matches_eps_iff {w : List Char} : Matches .eps w ↔ w = [] := by
  constructor
  · intro h
    cases h
    rfl
  · rintro rfl
    exact .eps

theorem matches_cat_iff {a b : Regex} {w : List Char} :
    Matches (.cat a b) w ↔ ∃ u v, w = u ++ v ∧ Matches a u ∧ Matches b v := by
  constructor
  · intro h
    cases h with
    | cat h1 h2 => exact ⟨_, _, rfl, h1, h2⟩
  · rintro ⟨u, v, rfl, h1, h2⟩
    exact .cat h1 h2

theorem matches_alt_iff {a b : Regex} {w : List Char} :
    Matches (.alt a b) w ↔ Matches a w ∨ Matches b w := by
  constructor
  · intro h
    cases h with
    | altL h => exact .inl h
    | altR h => exact .inr h
  · exact fun h => h.elim .altL .altR

theorem matches_opt_iff {a : Regex} {w : List Char} :
    Matches (.opt a) w ↔ w = [] ∨ Matches a w := by
  constructor
  · intro h
    cases h with
    | optNone => exact .inl rfl
    | optSome h => exact .inr h
  · rintro (rfl | h)
    · exact .optNone
    · exact .optSome h

theorem matches_cls_iff {neg : Bool} {rs : List (Nat × Nat)} {w : List Char} :
    Matches (.cls neg rs) w ↔ ∃ c, w = [c] ∧ clsMatch neg rs c = true := by
  constructor
  · intro h
    cases h with
    | cls h => exact ⟨_, rfl, h⟩
  · rintro ⟨c, rfl, h⟩
    exact .cls h

theorem matches_star_iff {a : Regex} {w : List Char} :
    Matches (.star a) w ↔ ∃ us : List (List Char), w = us.flatten ∧ ∀ u ∈ us, Matches a u := by
  constructor
  · generalize hr : Regex.star a = r
    intro h
    induction h with
    | starNil => exact ⟨[], rfl, by simp⟩
    | starCons hu _ _ ih =>
      cases hr
      obtain ⟨us, rfl, h⟩ := ih rfl
      exact ⟨_ :: us, rfl, List.forall_mem_cons.mpr ⟨hu, h⟩⟩
    | _ => cases hr
  · rintro ⟨us, rfl, h⟩
    induction us with
    | nil => exact .starNil
    | cons u us ih =>
      exact .starCons (h u List.mem_cons_self) (ih fun v hv => h v (List.mem_cons_of_mem _ hv))

theorem matches_plus_iff {a : Regex} {w : List Char} :
    Matches (.plus a) w ↔ Matches (.cat a (.star a)) w := by
  constructor
  · intro h
    cases h with
    | plus h1 h2 => exact .cat h1 h2
  · intro h
    cases h with
    | cat h1 h2 => exact .plus h1 h2

theorem matches_star_cons_iff {a : Regex} {c : Char} {w : List Char} :
    Matches (.star a) (c :: w) ↔
      ∃ u v, w = u ++ v ∧ Matches a (c :: u) ∧ Matches (.star a) v := by
  constructor
  · rw [matches_star_iff]
    rintro ⟨us, he, h⟩
    induction us with
    | nil => cases he
    | cons u us ih =>
      obtain ⟨hu, hus⟩ := List.forall_mem_cons.mp h
      cases u with
      | nil => exact ih he hus
      | cons x u =>
        cases he
        exact ⟨u, _, rfl, hu, matches_star_iff.mpr ⟨us, rfl, hus⟩⟩
  · rintro ⟨u, v, rfl, h1, h2⟩
    exact .starCons h1 h2

theorem matches_cat_nil_iff {a b : Regex} : Matches (.cat a b) [] ↔ Matches a [] ∧ Matches b [] := by
  rw [matches_cat_iff]
  constructor
  · rintro ⟨u, v, e, h1, h2⟩
    obtain ⟨rfl, rfl⟩ := List.nil_eq_append_iff.mp e
    exact ⟨h1, h2⟩
  · exact fun ⟨h1, h2⟩ => ⟨[], [], rfl, h1, h2⟩

theorem nullable_iff {r : Regex} : nullable r = true ↔ Matches r [] := by
  induction r with
  | empty => simp [nullable, not_matches_empty]
  | eps => simp [nullable, matches_eps_iff]
  | cls => simp [nullable, matches_cls_iff]
  | cat a b iha ihb => simp [nullable, matches_cat_nil_iff, iha, ihb]
  | alt a b iha ihb => simp [nullable, matches_alt_iff, iha, ihb]
  | star a => simpa [nullable] using Matches.starNil
  | plus a iha => simp [nullable, matches_plus_iff, matches_cat_nil_iff, iha, Matches.starNil]
  | opt a => simp [nullable, matches_opt_iff]

theorem matches_cat_cons_iff {a b : Regex} {c : Char} {w : List Char} :
    Matches (.cat a b) (c :: w) ↔
      (∃ u v, w = u ++ v ∧ Matches a (c :: u) ∧ Matches b v) ∨ (Matches a [] ∧ Matches b (c :: w)) := by
  simp only [matches_cat_iff, List.cons_eq_append_iff]
  constructor
  · rintro ⟨u, v, ⟨rfl, rfl⟩ | ⟨u', rfl, rfl⟩, h1, h2⟩
    · exact .inr ⟨h1, h2⟩
    · exact .inl ⟨u', v, rfl, h1, h2⟩
  · rintro (⟨u, v, rfl, h1, h2⟩ | ⟨h1, h2⟩)
    · exact ⟨_, v, .inr ⟨u, rfl, rfl⟩, h1, h2⟩
    · exact ⟨[], _, .inl ⟨rfl, rfl⟩, h1, h2⟩

theorem mkCat_iff {a b : Regex} {w : List Char} :
    Matches (mkCat a b) w ↔ Matches (.cat a b) w := by
  unfold mkCat
  split
  · simp_all [matches_cat_iff, not_matches_empty]
  split
  · simp_all [matches_cat_iff, not_matches_empty]
  split
  · subst_vars
    constructor
    · exact fun h => .cat .eps h
    · intro h
      obtain ⟨_, _, rfl, h1, h2⟩ := matches_cat_iff.mp h
      cases h1
      exact h2
  · rfl

theorem mkAlt_iff {a b : Regex} {w : List Char} :
    Matches (mkAlt a b) w ↔ Matches a w ∨ Matches b w := by
  unfold mkAlt
  split
  · simp_all [not_matches_empty]
  split
  · simp_all [not_matches_empty]
  split
  · simp_all
  · exact matches_alt_iff

theorem deriv_iff {c : Char} {r : Regex} {w : List Char} :
    Matches (deriv c r) w ↔ Matches r (c :: w) := by
  induction r generalizing w with
  | empty => simp [deriv, not_matches_empty]
  | eps => simp [deriv, not_matches_empty, matches_eps_iff]
  | cls neg rs =>
    simp only [deriv, matches_cls_iff, List.cons.injEq]
    split
    · next h =>
      rw [matches_eps_iff]
      constructor
      · exact fun e => ⟨c, ⟨rfl, e⟩, h⟩
      · rintro ⟨_, ⟨_, e⟩, _⟩
        exact e
    · next h =>
      constructor
      · exact fun h' => absurd h' not_matches_empty
      · rintro ⟨_, ⟨rfl, _⟩, h'⟩
        exact absurd h' h
  | cat a b iha ihb =>
    -- `c` is read inside `a` (`iha`) or, when `a` is nullable, at the head of `b` (`ihb`)
    simp only [deriv, matches_cat_cons_iff, ← nullable_iff]
    split <;> simp [mkAlt_iff, mkCat_iff, matches_cat_iff, *]
  | alt a b iha ihb => simp [deriv, mkAlt_iff, matches_alt_iff, iha, ihb]
  | star a iha => simp [deriv, mkCat_iff, matches_cat_iff, matches_star_cons_iff, iha]
  | plus a iha =>
    -- `c` is read in the leading `a` or, that one being empty, in the first non-empty round of the
    -- `a*` behind it, which is the same condition: the goal becomes `P ↔ P ∨ (Matches a [] ∧ P)`
    rw [matches_plus_iff, matches_cat_cons_iff, matches_star_cons_iff]
    simp only [deriv, mkCat_iff, matches_cat_iff, iha]
    exact ⟨.inl, fun h => h.elim id (·.2)⟩
  | opt a iha => simp [deriv, matches_opt_iff, iha]

theorem derivs_iff {u : List Char} : ∀ {r : Regex} {w : List Char},
    Matches (derivs r u) w ↔ Matches r (u ++ w) := by
  induction u with
  | nil =>
    intro r w
    simp [derivs]
  | cons c cs ih =>
    intro r w
    simp only [derivs, List.cons_append]
    rw [ih, deriv_iff]

theorem rmatch_iff {r : Regex} {w : List Char} : rmatch r w = true ↔ Matches r w := by
  unfold rmatch
  rw [nullable_iff, derivs_iff]
  simp

/-- `r` accepts the prefix of `s` of length `k` -/
def AccLen (r : Regex) (s : List Char) (k : Nat) : Prop := k ≤ s.length ∧ Matches r (s.take k)

theorem accLen_nil {r : Regex} {k : Nat} : AccLen r [] k ↔ k = 0 ∧ nullable r = true := by
  simp +contextual [AccLen, nullable_iff]

theorem accLen_cons {r : Regex} {c : Char} {cs : List Char} {k : Nat} :
    AccLen r (c :: cs) k ↔ (k = 0 ∧ nullable r = true) ∨ ∃ j, k = j + 1 ∧ AccLen (deriv c r) cs j := by
  cases k <;> simp [AccLen, nullable_iff, deriv_iff]

/-- either some prefix is accepted and the result is `n +` the greatest accepted length, or none is and
`best` comes back unchanged -/
theorem longestAux_spec (r : Regex) (s : List Char) (n : Nat) (best : Option Nat) :
    (∃ k, longestAux r s n best = some (n + k) ∧ AccLen r s k ∧ ∀ j, AccLen r s j → j ≤ k) ∨
    (longestAux r s n best = best ∧ ∀ j, ¬ AccLen r s j) := by
  induction s generalizing r n best with
  | nil => by_cases h : nullable r = true <;> simp [longestAux, accLen_nil, h]
  | cons c cs ih =>
    by_cases he : r = .empty
    · subst he
      simp [longestAux, AccLen, not_matches_empty, nullable]
    simp only [longestAux, he, if_false, accLen_cons]
    rcases ih (deriv c r) (n + 1) (if nullable r = true then some n else best) with
      ⟨k, h1, h2, h3⟩ | ⟨h1, h2⟩
    · have hk : longestAux (deriv c r) cs (n + 1) (if nullable r = true then some n else best) =
          some (n + (k + 1)) := by
        rw [h1, Nat.add_right_comm, Nat.add_assoc]
      refine .inl ⟨k + 1, hk, .inr ⟨k, rfl, h2⟩, ?_⟩
      rintro j (⟨rfl, _⟩ | ⟨j', rfl, hj⟩)
      · omega
      · exact Nat.succ_le_succ (h3 _ hj)
    · by_cases h : nullable r = true
      · refine .inl ⟨0, by simpa [h] using h1, .inl ⟨rfl, h⟩, ?_⟩
        rintro j (⟨rfl, _⟩ | ⟨j', rfl, hj⟩)
        · omega
        · exact absurd hj (h2 _)
      · refine .inr ⟨by simpa [h] using h1, ?_⟩
        rintro j (⟨rfl, hn⟩ | ⟨j', rfl, hj⟩)
        · exact h hn
        · exact h2 _ hj

theorem longest_spec (r : Regex) (s : List Char) :
    (∃ k, longest r s = some k ∧ AccLen r s k ∧ ∀ j, AccLen r s j → j ≤ k) ∨
    (longest r s = none ∧ ∀ j, ¬ AccLen r s j) := by
  simpa [longest] using longestAux_spec r s 0 none

theorem longest_sound {r : Regex} {s : List Char} {m : Nat} (h : longest r s = some m) :
    m ≤ s.length ∧ Matches r (s.take m) := by
  rcases longest_spec r s with ⟨k, h1, h2, -⟩ | ⟨h1, -⟩
  · cases h1.symm.trans h
    exact h2
  · cases h1.symm.trans h

theorem longest_max {r : Regex} {s : List Char} {k : Nat} (hk : k ≤ s.length)
    (hm : Matches r (s.take k)) : ∃ m, longest r s = some m ∧ k ≤ m := by
  rcases longest_spec r s with ⟨m, h1, -, h3⟩ | ⟨-, h2⟩
  · exact ⟨m, h1, h3 k ⟨hk, hm⟩⟩
  · exact absurd ⟨hk, hm⟩ (h2 k)

theorem longest_pos {r : Regex} {s : List Char} {m : Nat} (hn : nullable r = false)
    (h : longest r s = some m) : 0 < m := by
  refine Nat.pos_of_ne_zero fun e => ?_
  have := (longest_sound h).2
  rw [e, List.take_zero, ← nullable_iff, hn] at this
  cases this

theorem inRanges_points {ns : List Nat} {c : Char} :
    inRanges (ns.map fun n => (n, n)) c = true ↔ c.toNat ∈ ns := by
  simp only [inRanges, List.any_map, List.any_eq_true, Function.comp, Bool.and_eq_true,
    decide_eq_true_eq]
  exact ⟨fun ⟨n, hn, h1, h2⟩ => Nat.le_antisymm h2 h1 ▸ hn, fun h => ⟨_, h, Nat.le_refl _, Nat.le_refl _⟩⟩

theorem clsMatch_not_points {ns : List Nat} {c : Char} :
    clsMatch true (ns.map fun n => (n, n)) c = true ↔ c.toNat ∉ ns := by
  simp [clsMatch, ← inRanges_points]

theorem clsMatch_single {n : Nat} {c : Char} : clsMatch false [(n, n)] c = true ↔ c.toNat = n := by
  simpa [clsMatch] using inRanges_points (ns := [n]) (c := c)

theorem matches_single_iff {c : Char} {w : List Char} : Matches (single c) w ↔ w = [c] := by
  refine matches_cls_iff.trans ⟨fun ⟨x, e, h⟩ => ?_, fun e => ⟨c, e, clsMatch_single.mpr rfl⟩⟩
  rw [e, Char.toNat_inj.mp (clsMatch_single.mp h)]

theorem matches_ofChars_iff {l w : List Char} : Matches (ofChars l) w ↔ w = l := by
  induction l generalizing w with
  | nil => exact matches_eps_iff
  | cons c cs ih =>
    simp only [ofChars, matches_cat_iff, matches_single_iff, ih]
    constructor
    · rintro ⟨_, _, rfl, rfl, rfl⟩
      rfl
    · exact fun e => ⟨[c], cs, e, rfl, rfl⟩

end CapyV.Lexer
