import CapyV.Spec.CapyCoreMem
/-!
The store and pointer theorems of C01 that other theorems of C01 rest on (`load_after_store`,
`store_frame_other_var`, `store_preserves_shape`, `assign_through_pointer`, `deref_reads_cell`,
`dead_frame_no_access`), and the algebra of the addressable store of `CapyCoreMem` they are read off:
what a lookup sees after an update, for each of the four layers a cell goes through — variables of
an environment (`lookup`/`setVar`), elements of an aggregate (`listSet`, which is `List.set`),
sub-values along an access path (`getPath`/`setPath`) and frames of the stack
(`lookupFrame`/`setFrame`, `frameEnv`/`withFrameEnv`) — then what a successful `storeCell` did.
`Props/C01.lean` holds the theorems of C01 that nothing else uses. Also here: `wrap_modular`, the
arithmetic behind `add_is_modular`. The namespace is `CapyV.C01`: `./check C01` audits these
theorems, and the evidence files and corpus reports cite them, under that name.
-/
namespace CapyV.C01
open CapyV.Core (wrap listSet)
open CapyV.CoreMem

theorem wrap_modular (signed : Bool) (bits : Nat) (z : Int) :
    ∃ k : Int, wrap signed bits z = z + k * 2 ^ bits := by
  simp only [wrap]
  have hd := Int.emod_add_mul_ediv z (2 ^ bits)
  split
  · refine ⟨-(z / 2 ^ bits) - 1, ?_⟩
    have : (-(z / 2 ^ bits) - 1) * 2 ^ bits = -(2 ^ bits * (z / 2 ^ bits)) - 2 ^ bits := by
      rw [Int.sub_mul, Int.neg_mul, Int.one_mul, Int.mul_comm]
    omega
  · refine ⟨-(z / 2 ^ bits), ?_⟩
    have : (-(z / 2 ^ bits)) * 2 ^ bits = -(2 ^ bits * (z / 2 ^ bits)) := by
      rw [Int.neg_mul, Int.mul_comm]
    omega

/-- **store frame (variables)** -/
theorem lookup_setVar (x y : Nat) (v : Val) (env : Env) :
    lookup y (setVar x v env) = if y = x then some v else lookup y env := by
  induction env with
  | nil => rfl
  | cons zw r ih =>
    obtain ⟨z, w⟩ := zw
    by_cases hxz : x = z
    · subst hxz
      by_cases hyx : y = x <;> simp [setVar, lookup, hyx]
    · by_cases hyz : y = z
      · subst hyz
        simp [setVar, lookup, hxz, Ne.symm hxz]
      · simp [setVar, lookup, hxz, hyz, ih]

theorem listSet_eq_set {α} (l : List α) (i : Nat) (v : α) : listSet l i v = l.set i v := by
  induction l generalizing i with
  | nil => rfl
  | cons a r ih => cases i <;> simp [listSet, ih]

/-- **store frame (elements / fields)** -/
theorem listSet_frame {α} {i j : Nat} (h : j ≠ i) (l : List α) (v : α) :
    (listSet l i v)[j]? = l[j]? := by
  rw [listSet_eq_set, List.getElem?_set_ne (Ne.symm h)]

/-- the one place where `setPath` is unfolded: one level of a write, as `getPath` sees it -/
theorem setPath_cons {old new v : Val} {i : Nat} {r : List Nat}
    (h : setPath old (i :: r) v = some new) :
    ∃ e e', setPath e r v = some e' ∧ (∀ s, getPath old (i :: s) = getPath e s) ∧
      (∀ s, getPath new (i :: s) = getPath e' s) ∧
      ∀ j s, j ≠ i → getPath new (j :: s) = getPath old (j :: s) := by
  -- `setPath` treats arrays and structs alike
  cases old <;> simp only [setPath] at h <;> try (exact absurd h (by simp))
  all_goals
    split at h
    · rename_i e he
      split at h
      · rename_i e' he'
        cases h
        refine ⟨e, e', he', fun s => by simp only [getPath, he], fun s => ?_, fun j s hj => ?_⟩
        · simp only [getPath, listSet_eq_set,
            List.getElem?_set_self (List.getElem?_eq_some_iff.mp he).1]
        · simp only [getPath, listSet_frame hj]
      · cases h
    · cases h

theorem getPath_setPath_same : ∀ (path : List Nat) (old v new : Val),
    setPath old path v = some new → getPath new path = some v
  | [], old, v, new, h => by
    simp only [setPath, Option.some.injEq] at h
    subst h
    simp only [getPath]
  | i :: r, old, v, new, h => by
    obtain ⟨e, e', hs, -, hnew, -⟩ := setPath_cons h
    rw [hnew]
    exact getPath_setPath_same r e v e' hs

theorem getPath_setPath_disjoint : ∀ (pre : List Nat) (old v new : Val) (i j : Nat) (r r' : List Nat),
    j ≠ i → setPath old (pre ++ i :: r) v = some new →
    getPath new (pre ++ j :: r') = getPath old (pre ++ j :: r')
  | [], old, v, new, i, j, r, r', hij, h =>
    let ⟨_, _, _, _, _, hother⟩ := setPath_cons h
    hother j r' hij
  | k :: pre, old, v, new, i, j, r, r', hij, h => by
    obtain ⟨e, e', hs, hold, hnew, -⟩ := setPath_cons h
    simp only [List.cons_append, hold, hnew]
    exact getPath_setPath_disjoint pre e v e' i j r r' hij hs

/-- unlike `setVar`, `setFrame` does not insert a missing key: hence the `map` -/
theorem lookupFrame_setFrame (f g : Nat) (e : Env) (stk : List (Nat × Env)) :
    lookupFrame g (setFrame f e stk) = if g = f then (lookupFrame f stk).map fun _ => e else lookupFrame g stk := by
  induction stk with
  | nil => simp [setFrame, lookupFrame]
  | cons a r ih =>
    obtain ⟨k, e'⟩ := a
    by_cases hk : f = k
    · subst hk
      by_cases hgf : g = f <;> simp [setFrame, lookupFrame, hgf]
    · by_cases hgk : g = k
      · subst hgk
        simp [setFrame, lookupFrame, hk, Ne.symm hk]
      · simp [setFrame, lookupFrame, hk, hgk, ih]

theorem setFrame_ids (f : Nat) (e : Env) (stk : List (Nat × Env)) :
    (setFrame f e stk).map (·.1) = stk.map (·.1) := by
  induction stk with
  | nil => simp [setFrame]
  | cons a r ih =>
    obtain ⟨k, e'⟩ := a
    by_cases hk : f = k <;> simp [setFrame, hk, ih]

theorem lookupFrame_eq_none {f : Nat} {stk : List (Nat × Env)} (h : f ∉ stk.map (·.1)) :
    lookupFrame f stk = none := by
  induction stk with
  | nil => rfl
  | cons a r ih =>
    simp only [List.map_cons, List.mem_cons, not_or] at h
    simp only [lookupFrame, h.1, if_false, ih h.2]

theorem frameEnv_withFrameEnv (st : St) (f g : Nat) (e : Env) :
    frameEnv (withFrameEnv st f e) g = if g = f then (frameEnv st f).map fun _ => e else frameEnv st g := by
  unfold frameEnv withFrameEnv
  by_cases hf : f = st.fid
  · subst hf
    by_cases hg : g = st.fid <;> simp [hg]
  · by_cases hg : g = st.fid
    · subst hg
      simp [hf, Ne.symm hf]
    · simp [hf, hg, lookupFrame_setFrame]

theorem storeCell_eq_some {st st' : St} {c : Cell} {v : Val} (h : storeCell st c v = some st') :
    ∃ env old new, frameEnv st c.frame = some env ∧ lookup c.var env = some old ∧
      setPath old c.path v = some new ∧ st' = withFrameEnv st c.frame (setVar c.var new env) := by
  unfold storeCell at h
  split at h
  · cases h
  · rename_i env henv
    split at h
    · cases h
    · rename_i old hold
      split at h
      · cases h
      · rename_i new hnew
        cases h
        exact ⟨env, old, new, henv, hold, hnew, rfl⟩

/-- **read-after-write** -/
theorem load_after_store (st st' : St) (c : Cell) (v : Val) (h : storeCell st c v = some st') :
    loadCell st' c = some v := by
  obtain ⟨env, old, new, henv, -, hnew, rfl⟩ := storeCell_eq_some h
  simp only [loadCell, frameEnv_withFrameEnv, henv, lookup_setVar, ↓reduceIte, Option.map_some]
  exact getPath_setPath_same c.path old v new hnew

/-- **store frame lemma, other variables** (of the same frame or of any other frame) -/
theorem store_frame_other_var (st st' : St) (c c' : Cell) (v : Val)
    (h : storeCell st c v = some st') (hne : c'.frame ≠ c.frame ∨ c'.var ≠ c.var) :
    loadCell st' c' = loadCell st c' := by
  obtain ⟨env, old, new, henv, -, -, rfl⟩ := storeCell_eq_some h
  by_cases hf : c'.frame = c.frame
  · have hv : c'.var ≠ c.var := hne.resolve_left (not_not_intro hf)
    simp only [loadCell, hf, frameEnv_withFrameEnv, henv, lookup_setVar, if_neg hv, ↓reduceIte,
      Option.map_some]
  · simp only [loadCell, frameEnv_withFrameEnv, if_neg hf]

/-- **store frame**: a store changes nothing but variables -/
theorem store_preserves_shape (st st' : St) (c : Cell) (v : Val) (h : storeCell st c v = some st') :
    st'.out = st.out ∧ st'.fid = st.fid ∧ st'.next = st.next ∧
      st'.stack.map (·.1) = st.stack.map (·.1) := by
  obtain ⟨env, old, new, -, -, -, rfl⟩ := storeCell_eq_some h
  unfold withFrameEnv
  split <;> simp [setFrame_ids]

/-- **the statement `p^ = e`**. Fuel: one unit per interpreter layer entered (`execSCore`,
`resolve`/`evalE`, `evalE` of the variable). -/
theorem assign_through_pointer (p : Program) (n x : Nat) (e : Expr) (regs : List Stmt)
    (st st2 st3 : St) (c : Cell) (v : Val)
    (hx : lookup x st.env = some (.ptr c))
    (he : evalE p (n + 2) e st = .ok (v, st2))
    (hs : storeCell st2 c v = some st3) :
    execSCore p (n + 3) (.assign (.deref (.var x)) e) regs st = .ok (.normal, regs, st3) := by
  have hv : evalE p (n + 1) (.var x) st = .ok (.ptr c, st) := by simp only [evalE, hx]
  simp only [execSCore, resolve, hv, he, hs]

/-- **read-after-write at the level of expressions** -/
theorem deref_reads_cell (p : Program) (n x : Nat) (st : St) (c : Cell) (v : Val)
    (hx : lookup x st.env = some (.ptr c)) (hl : loadCell st c = some v) :
    evalE p (n + 2) (.deref (.var x)) st = .ok (v, st) := by
  simp only [evalE, hx, hl]

/-- **dead frames**: the `none` of `loadCell`/`storeCell` is what the interpreter reports as `stuck` -/
theorem dead_frame_no_access (st : St) (c : Cell) (v : Val)
    (h1 : c.frame ≠ st.fid) (h2 : lookupFrame c.frame st.stack = none) :
    loadCell st c = none ∧ storeCell st c v = none := by
  simp [loadCell, storeCell, frameEnv, h1, h2]

end CapyV.C01
