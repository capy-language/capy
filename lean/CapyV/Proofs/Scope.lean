import CapyV.Spec.Scope
import CapyV.Model.ScopeGuard
/-!
C05 — the (fixed) resolver of `hir::body::Ctx` implements lexical scoping.

Invariant (`Rel`): the mutable state `Ctx` (scope stack, `params`, `inline_header_params`) and
the spec's environment answer every lookup alike, and so do their restrictions to the lambda
header bindings (what a `comptime` expression keeps). Every expression restores the state
exactly; a statement list only extends the top scope. `Ctx.toSEnv` is the environment a state
denotes; what an operation of `Ctx` does to the invariant is read off what it does to that.
-/
namespace CapyV.Scope

def Agree (env : Env) (c : Ctx) (se : SEnv) : Prop :=
  ∀ x, lowerVarRef env c x = specLookup env se x

def Rel (env : Env) (c : Ctx) (se : SEnv) : Prop :=
  Agree env c se ∧
  Agree env { scopes := [], params := [], inline := c.inline } (se.filter (·.2.isHeader))

def Local.res : Local → Res
  | .defn t => .local t
  | .switchArm t => .switchArg t

theorem Local.res_not_header (l : Local) : l.res.isHeader = false := by
  cases l <;> rfl

/-- what a parameter is inside the header that declares it, and inside the body -/
def PInfo.headerRes (x : Nat) (p : PInfo) : Res :=
  match p.comptimeIdx with
  | some ci => .inlineParam p.tag p.realIdx ci
  | none => .inlineNotComptime x

def PInfo.bodyRes (p : PInfo) : Res :=
  match p.comptimeIdx with
  | some ci => .comptimeParam p.tag p.realIdx ci
  | none => .param p.tag p.realIdx

/-- The environment a resolver state denotes: header parameters hide the scope stack (innermost
scope first), which hides the parameters. -/
def Ctx.toSEnv (c : Ctx) : SEnv :=
  c.inline.map (fun p => (p.1, p.2.headerRes p.1)) ++
    (c.scopes.flatten.map (fun p => (p.1, p.2.res)) ++ c.params.map (fun p => (p.1, p.2.bodyRes)))

theorem lookup_map {β γ : Type} (f : Nat → β → γ) (l : List (Nat × β)) (x : Nat) :
    (l.map fun p => (p.1, f p.1 p.2)).lookup x = (l.lookup x).map (f x) := by
  induction l with
  | nil => rfl
  | cons p rest ih =>
    simp only [List.map_cons, List.lookup, ih]
    cases h : x == p.1
    · rfl
    · simp [eq_of_beq h]

theorem lookupScopes_eq (x : Nat) (ss : List Scope) : lookupScopes x ss = ss.flatten.lookup x := by
  induction ss with
  | nil => rfl
  | cons s rest ih =>
    simp only [lookupScopes, ih, List.flatten_cons, List.lookup_append]
    cases s.lookup x <;> rfl

theorem lowerVarRef_eq (env : Env) (c : Ctx) (x : Nat) :
    lowerVarRef env c x = specLookup env c.toSEnv x := by
  simp only [lowerVarRef, specLookup, Ctx.toSEnv, List.lookup_append, lookupScopes_eq,
    lookup_map (fun x p => PInfo.headerRes x p), lookup_map (fun _ l => Local.res l),
    lookup_map (fun _ p => PInfo.bodyRes p)]
  cases c.inline.lookup x with
  | some p =>
    simp only [Option.map, Option.or, PInfo.headerRes]
    cases p.comptimeIdx <;> rfl
  | none =>
    cases c.scopes.flatten.lookup x with
    | some l => cases l <;> rfl
    | none =>
      cases c.params.lookup x with
      | some p =>
        simp only [Option.map, Option.or, PInfo.bodyRes]
        cases p.comptimeIdx <;> rfl
      | none => rfl

theorem specLookup_cons (env : Env) (b : Nat × Res) (se : SEnv) (x : Nat) :
    specLookup env (b :: se) x = if x == b.1 then b.2 else specLookup env se x := by
  simp only [specLookup, List.lookup]
  cases x == b.1 <;> rfl

theorem Agree.cons {env : Env} {c c' : Ctx} {se : SEnv} (h : Agree env c se) (b : Nat × Res)
    (hc : c'.toSEnv = b :: c.toSEnv) : Agree env c' (b :: se) := fun x => by
  rw [lowerVarRef_eq, hc, specLookup_cons, specLookup_cons, ← lowerVarRef_eq, h x]

theorem Agree.nil {env : Env} {c : Ctx} (hc : c.toSEnv = []) : Agree env c [] := fun x => by
  rw [lowerVarRef_eq, hc]

theorem Rel.init (env : Env) : Rel env Ctx.init [] := ⟨.nil rfl, .nil rfl⟩

theorem Rel.empty (env : Env) : Rel env { scopes := [], params := [], inline := [] } [] :=
  ⟨.nil rfl, .nil rfl⟩

theorem Rel.push {env : Env} {c : Ctx} {se : SEnv} (h : Rel env c se) : Rel env c.push se := by
  refine ⟨fun x => ?_, h.2⟩
  rw [← h.1 x, lowerVarRef_eq, lowerVarRef_eq]
  rfl

/-- inserting a local / switch argument into the top scope, outside a header -/
theorem Rel.insert {env : Env} {c : Ctx} {se : SEnv} (h : Rel env c se) (hi : c.inline = [])
    (s : Scope) (rest : List Scope) (hs : c.scopes = s :: rest) (x : Nat) (l : Local) :
    Rel env { c with scopes := ((x, l) :: s) :: rest } ((x, l.res) :: se) :=
  ⟨h.1.cons _ (by simp [Ctx.toSEnv, hi, hs]),
    by simpa [List.filter, Local.res_not_header] using h.2⟩

/-- a parameter becomes visible in the rest of the header -/
theorem Rel.header {env : Env} {c : Ctx} {se : SEnv} (h : Rel env c se)
    (x tag : Nat) (ct : Bool) (idx cidx : Nat) :
    Rel env { c with inline := (x, paramInfo tag idx ct cidx) :: c.inline }
      (headerBinding x tag ct idx cidx :: se) := by
  have hb : (x, (paramInfo tag idx ct cidx).headerRes x) = headerBinding x tag ct idx cidx := by
    cases ct <;> rfl
  have hh : (headerBinding x tag ct idx cidx).2.isHeader = true := by cases ct <;> rfl
  refine ⟨h.1.cons _ (by simp [Ctx.toSEnv, hb]), ?_⟩
  rw [List.filter_cons, if_pos hh]
  exact h.2.cons _ (by simp [Ctx.toSEnv, hb])

/-- the same parameter, in the environment of the body -/
theorem Rel.bodyParam {env : Env} {keys : List (Nat × PInfo)} {se : SEnv}
    (h : Rel env { scopes := [], params := keys, inline := [] } se)
    (x tag : Nat) (ct : Bool) (idx cidx : Nat) :
    Rel env { scopes := [], params := (x, paramInfo tag idx ct cidx) :: keys, inline := [] }
      (bodyBinding x tag ct idx cidx :: se) := by
  have hb : (x, (paramInfo tag idx ct cidx).bodyRes) = bodyBinding x tag ct idx cidx := by
    cases ct <;> rfl
  have hh : (bodyBinding x tag ct idx cidx).2.isHeader = false := by cases ct <;> rfl
  refine ⟨h.1.cons _ (by simp [Ctx.toSEnv, hb]), ?_⟩
  simpa [List.filter, hh] using h.2

/-- what a `comptime` expression keeps -/
theorem Rel.comptime {env : Env} {c : Ctx} {se : SEnv} (h : Rel env c se) :
    Rel env { scopes := [], params := [], inline := c.inline } (se.filter (·.2.isHeader)) := by
  refine ⟨h.2, ?_⟩
  simpa [List.filter_filter] using h.2

theorem Ctx.mk_eq {c : Ctx} {s : List Scope} {p i : List (Nat × PInfo)} (hs : s = c.scopes)
    (hp : p = c.params) (hi : i = c.inline) : ({ scopes := s, params := p, inline := i } : Ctx) = c := by
  subst hs hp hi
  rfl

/-- `insert_into_current_scope` outside a header, on a stack that has a scope -/
theorem Rel.ctxInsert {env : Env} {c : Ctx} {se : SEnv} (h : Rel env c se) (hi : c.inline = [])
    (hne : c.scopes ≠ []) (x : Nat) (l : Local) :
    ∃ c', c.insert x l = some c' ∧ Rel env c' ((x, l.res) :: se) ∧
      c'.scopes.tail = c.scopes.tail ∧ c'.scopes ≠ [] ∧ c'.params = c.params ∧
      c'.inline = c.inline := by
  rcases hs : c.scopes with _ | ⟨s, rest⟩
  · exact absurd hs hne
  · exact ⟨_, by simp only [Ctx.insert, hs], h.insert hi s rest hs x l, rfl, List.cons_ne_nil _ _,
      rfl, rfl⟩

/-- the scope of a switch arm with its argument: popping it gives the state back -/
theorem Rel.insertArg {env : Env} {c : Ctx} {se : SEnv} (h : Rel env c se) (arg : Option Nat)
    (hi : arg ≠ none → c.inline = []) (tag : Nat) :
    ∃ c', c.push.insertArg arg tag = some c' ∧ Rel env c' (bindArg arg tag se) ∧ c'.pop = c ∧
      c'.inline = c.inline := by
  cases arg with
  | none => exact ⟨_, rfl, h.push, rfl, rfl⟩
  | some a =>
    obtain ⟨c', hins, hr, htl, _, hp, hin⟩ :=
      h.push.ctxInsert (hi nofun) (List.cons_ne_nil _ _) a (.switchArm tag)
    exact ⟨c', hins, hr, Ctx.mk_eq htl hp hin, hin⟩

mutual
/-- `h` is the flag of `okExpr`: we are inside a lambda header whose `inline_header_params` is
non-empty; outside (`h = false`) `inline` is empty. -/
theorem lowerExpr_eq (env : Env) : (e : Expr) → ∀ (h : Bool) (c : Ctx) (se : SEnv),
    okExpr h e = true → (h = false → c.inline = []) → Rel env c se →
    lowerExpr true env e c = some (c, specExpr env e se)
  | .lit => fun _ _ _ _ _ _ => rfl
  | .use x => by intro h c se _ _ hr; simp [lowerExpr, specExpr, hr.1 x]
  | .seq es => by
    intro h c se hok hi hr
    simp only [okExpr] at hok
    simp only [lowerExpr, specExpr]
    exact lowerExprs_eq env es h c se hok hi hr
  | .block ss tail => by
    intro h c se hok hi hr
    simp only [okExpr, Bool.and_eq_true] at hok
    obtain ⟨c1, h1, hr1, htl, _, hp, hin⟩ :=
      lowerStmts_eq env ss h c.push se hok.1 hi hr.push (List.cons_ne_nil _ _)
    have h2 := lowerExpr_eq env tail h c1 _ hok.2 (hin ▸ hi) hr1
    have hpop : c1.pop = c := Ctx.mk_eq htl hp hin
    simp only [lowerExpr, specExpr, h1, h2, hpop]
  | .switch arg scrut arms => by
    intro h c se hok hi hr
    simp only [okExpr, Bool.and_eq_true, Bool.or_eq_true, Bool.not_eq_true'] at hok
    have h1 := lowerExpr_eq env scrut h c se hok.1.2 hi hr
    -- the guard: inside a header a switch has no argument
    have harg : h = true → arg = none := by
      intro ht
      rcases hok.1.1 with hf | hn
      · rw [ht] at hf
        cases hf
      · exact Option.isNone_iff_eq_none.1 hn
    have h2 := lowerArms_eq env arg arms h c se hok.2 harg hi hr
    simp only [lowerExpr, specExpr, h1, h2]
  | .lambda ps ret body tail => by
    intro h c se hok hi hr
    simp only [okExpr, Bool.and_eq_true, Bool.not_eq_true'] at hok
    obtain ⟨⟨⟨⟨hh, hps⟩, hret⟩, hbody⟩, htail⟩ := hok
    have hci : c.inline = [] := hi hh
    obtain ⟨c1, keys, h1, hsc, hpa, hnil, hrH, hrB⟩ :=
      lowerParams_eq env ps false 0 0 [] c se [] hps (fun _ => hci) hr (Rel.empty env)
    have h2 := lowerExpr_eq env ret (!ps.isNil) c1 _ hret
      (by intro hn; rw [hnil (by simpa using hn), hci]) hrH
    obtain ⟨c3, h3, hr3, _, _, _, hin3⟩ :=
      lowerStmts_eq env body false ({ scopes := [], params := keys, inline := [] } : Ctx).push _ hbody
        (fun _ => rfl) hrB.push (List.cons_ne_nil _ _)
    have h4 := lowerExpr_eq env tail false c3 _ htail (fun _ => by rw [hin3]; rfl) hr3
    have hfin : ({ scopes := c1.scopes, params := c1.params, inline := c3.pop.inline } : Ctx) = c :=
      Ctx.mk_eq hsc hpa (hin3.trans hci.symm)
    simp only [lowerExpr, specExpr, hci, List.isEmpty_nil, if_true, h1, h2, h3, h4, hfin,
      List.append_assoc]
  | .comptime e => by
    intro h c se hok hi hr
    simp only [okExpr] at hok
    have h1 := lowerExpr_eq env e h { scopes := [], params := [], inline := c.inline } _ hok hi hr.comptime
    simp only [lowerExpr, specExpr, h1]
theorem lowerExprs_eq (env : Env) : (es : Exprs) → ∀ (h : Bool) (c : Ctx) (se : SEnv),
    okExprs h es = true → (h = false → c.inline = []) → Rel env c se →
    lowerExprs true env es c = some (c, specExprs env es se)
  | .nil => fun _ _ _ _ _ _ => rfl
  | .cons e rest => by
    intro h c se hok hi hr
    simp only [okExprs, Bool.and_eq_true] at hok
    have h1 := lowerExpr_eq env e h c se hok.1 hi hr
    have h2 := lowerExprs_eq env rest h c se hok.2 hi hr
    simp only [lowerExprs, specExprs, h1, h2]
/-- A statement list does not give the state back: its locals stay in the top scope until the
block pops it. So it needs a scope to insert into (`c.scopes ≠ []`), and says what of the state is
untouched: that is what the block and lambda cases need to recover `c` after `pop`. -/
theorem lowerStmts_eq (env : Env) : (ss : Stmts) → ∀ (h : Bool) (c : Ctx) (se : SEnv),
    okStmts h ss = true → (h = false → c.inline = []) → Rel env c se → c.scopes ≠ [] →
    ∃ c', lowerStmts true env ss c = some (c', (specStmts env ss se).1) ∧
      Rel env c' (specStmts env ss se).2 ∧ c'.scopes.tail = c.scopes.tail ∧ c'.scopes ≠ [] ∧
      c'.params = c.params ∧ c'.inline = c.inline
  | .nil => by
    intro h c se _ _ hr hne
    exact ⟨c, rfl, hr, rfl, hne, rfl, rfl⟩
  | .defn x tag ty val rest => by
    intro h c se hok hi hr hne
    simp only [okStmts, Bool.and_eq_true, Bool.not_eq_true'] at hok
    obtain ⟨⟨⟨hh, hty⟩, hval⟩, hrest⟩ := hok
    have hci : c.inline = [] := hi hh
    have h1 := lowerExpr_eq env ty h c se hty hi hr
    have h2 := lowerExpr_eq env val h c se hval hi hr
    obtain ⟨c3, hins, hr3, htl3, hne3, hp3, hin3⟩ := hr.ctxInsert hci hne x (.defn tag)
    obtain ⟨c', h3, hr', htl, hne', hp, hin⟩ :=
      lowerStmts_eq env rest h c3 ((x, .local tag) :: se) hrest (fun _ => hin3.trans hci) hr3 hne3
    exact ⟨c', by simp only [lowerStmts, specStmts, h1, h2, hins, h3, List.append_assoc], hr',
      htl.trans htl3, hne', hp.trans hp3, hin.trans hin3⟩
  | .expr e rest => by
    intro h c se hok hi hr hne
    simp only [okStmts, Bool.and_eq_true] at hok
    have h1 := lowerExpr_eq env e h c se hok.1 hi hr
    obtain ⟨c', h3, hr3, htl, hne', hp, hin⟩ := lowerStmts_eq env rest h c se hok.2 hi hr hne
    exact ⟨c', by simp only [lowerStmts, specStmts, h1, h3], hr3, htl, hne', hp, hin⟩
theorem lowerArms_eq (env : Env) (arg : Option Nat) : (arms : Arms) → ∀ (h : Bool) (c : Ctx) (se : SEnv),
    okArms h arms = true → (h = true → arg = none) → (h = false → c.inline = []) → Rel env c se →
    lowerArms true env arg arms c = some (c, specArms env arg arms se)
  | .nil => fun _ _ _ _ _ _ _ => rfl
  | .cons tag variant body rest => by
    intro h c se hok harg hi hr
    simp only [okArms, Bool.and_eq_true] at hok
    have h1 := lowerExpr_eq env variant h c se hok.1.1 hi hr
    have h3 := lowerArms_eq env arg rest h c se hok.2 harg hi hr
    -- an arm with an argument is outside a header (`harg`), where `inline` is empty
    have hci : arg ≠ none → c.inline = [] := fun ha =>
      hi (Bool.eq_false_iff.2 fun ht => ha (harg ht))
    obtain ⟨c2, hins, hr2, hpop, hin⟩ := hr.insertArg arg hci tag
    have h2 := lowerExpr_eq env body h c2 _ hok.1.2 (hin ▸ hi) hr2
    simp only [lowerArms, specArms, h1, if_true, hins, h2, hpop, h3, List.append_assoc]
theorem lowerParams_eq (env : Env) : (ps : Params) →
    ∀ (h : Bool) (idx cidx : Nat) (keys : List (Nat × PInfo)) (c : Ctx) (seH seB : SEnv),
    okParams h ps = true → (h = false → c.inline = []) → Rel env c seH →
    Rel env { scopes := [], params := keys, inline := [] } seB →
    ∃ c1 keys', lowerParams true env ps idx cidx keys c =
        some (c1, keys', (specParams env ps idx cidx seH seB).1) ∧
      c1.scopes = c.scopes ∧ c1.params = c.params ∧ (ps.isNil = true → c1.inline = c.inline) ∧
      Rel env c1 (specParams env ps idx cidx seH seB).2.1 ∧
      Rel env { scopes := [], params := keys', inline := [] } (specParams env ps idx cidx seH seB).2.2
  | .nil => by
    intro h idx cidx keys c seH seB _ _ hr hb
    exact ⟨c, keys, rfl, rfl, rfl, fun _ => rfl, hr, hb⟩
  | .cons x tag ct ty rest => by
    intro h idx cidx keys c seH seB hok hi hr hb
    simp only [okParams, Bool.and_eq_true] at hok
    have h1 := lowerExpr_eq env ty h c seH hok.1 hi hr
    obtain ⟨c1, keys', h2, hsc, hpa, _, hrH, hrB⟩ :=
      lowerParams_eq env rest true (idx + 1) (if ct then cidx + 1 else cidx)
        ((x, paramInfo tag idx ct cidx) :: keys)
        { c with inline := (x, paramInfo tag idx ct cidx) :: c.inline } _ _ hok.2 nofun
        (hr.header x tag ct idx cidx) (hb.bodyParam x tag ct idx cidx)
    exact ⟨c1, keys', by simp only [lowerParams, specParams, h1, h2], hsc, hpa,
      nofun, hrH, hrB⟩
end

/-- the environment of a lambda body does not depend on the lambda's surroundings -/
theorem specParams_body_indep (env : Env) : (ps : Params) → ∀ (idx cidx : Nat) (a a' b : SEnv),
    (specParams env ps idx cidx a b).2.2 = (specParams env ps idx cidx a' b).2.2
  | .nil => by intros; simp [specParams]
  | .cons x tag ct ty rest => by
    intro idx cidx a a' b
    simp only [specParams]
    exact specParams_body_indep env rest _ _ _ _ _

theorem lowerGlobals_eq (env : Env) : (gs : List Global) → okGlobals gs = true → ∀ c : Ctx,
    c.inline = [] → Rel env c [] → lowerGlobals true env gs c = some (c, specGlobals env gs)
  | [], _, c, _, _ => by simp [lowerGlobals, specGlobals]
  | g :: rest, hok, c, hi, hr => by
    simp only [okGlobals, Bool.and_eq_true] at hok
    have h1 := lowerExpr_eq env g.ty false c [] hok.1.1 (fun _ => hi) hr
    have h2 := lowerExpr_eq env g.val false c [] hok.1.2 (fun _ => hi) hr
    have h3 := lowerGlobals_eq env rest hok.2 c hi hr
    simp only [lowerGlobals, specGlobals, h1, h2, h3, List.append_assoc]

end CapyV.Scope
