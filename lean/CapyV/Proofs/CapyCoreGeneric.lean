import CapyV.Spec.CapyCoreGeneric

/-!
The substitution lemma for the generic functions of `Spec/CapyCoreGeneric.lean`: calling the
hand-substituted copy computes what the reference generic call computes (`subst_lemma`).

It rests on a simulation over all nine mutual interpreter functions (`SimAt`, proved at every fuel
by `sim`): running the substituted syntax in the erased state gives the image of running the
original syntax in a state that binds the comptime parameters. `subst_body`, `subst_expr` and
`subst_stmt` are its same-fuel equations; `subst_lemma` adds the call: the callee environments
(`agree_callee`, `erase_callee`) and the literal arguments (`evalArgs_append_lits`).
-/

namespace CapyV.Core.Generic
open CapyV.Core

theorem substEs_eq_map (σ : Subst) (es : List Expr) : substEs σ es = es.map (substE σ) := by
  induction es with
  | nil => simp [substEs]
  | cons e es ih => simp [substEs, ih]

theorem substSs_eq_map (σ : Subst) (ss : List Stmt) : substSs σ ss = ss.map (substS σ) := by
  induction ss with
  | nil => simp [substSs]
  | cons s ss ih => simp [substSs, ih]

@[simp] theorem eraseSt_env (σ : Subst) (st : St) : (eraseSt σ st).env = erase σ st.env := rfl
@[simp] theorem eraseSt_out (σ : Subst) (st : St) : (eraseSt σ st).out = st.out := rfl

theorem find_key {σ : Subst} {x : Nat} {c : CArg} (h : σ.find x = some c) : c.x = x := by
  induction σ with
  | nil => cases h
  | cons d r ih =>
    simp only [Subst.find] at h
    split at h
    · cases h
      assumption
    · exact ih h

theorem find_mem {σ : Subst} {x : Nat} {c : CArg} (h : σ.find x = some c) : c ∈ σ := by
  induction σ with
  | nil => cases h
  | cons d r ih =>
    simp only [Subst.find] at h
    split at h
    · cases h
      exact List.mem_cons_self
    · exact List.mem_cons_of_mem _ (ih h)

theorem find_eq_none_iff {σ : Subst} {x : Nat} : σ.find x = none ↔ x ∉ σ.map (·.x) := by
  induction σ with
  | nil => simp [Subst.find]
  | cons d r ih =>
    simp only [Subst.find, List.map_cons, List.mem_cons, not_or, ← ih]
    split
    · next h => simp [h]
    · next h => simp [Ne.symm h]

theorem agree_iff (σ : Subst) (env : List (Nat × Val)) :
    Agree σ env ↔ ∀ c, σ.find c.x = some c → lookup c.x env = some (cval c) := by
  constructor
  · intro h c hc
    exact h _ _ hc
  · intro h x c hc
    obtain rfl := find_key hc
    exact h c hc

theorem lookup_erase {σ : Subst} {x : Nat} (h : σ.find x = none) (env : List (Nat × Val)) :
    lookup x (erase σ env) = lookup x env := by
  induction env with
  | nil => rfl
  | cons yv r ih =>
    obtain ⟨y, v⟩ := yv
    simp only [erase, List.filter] at ih ⊢
    by_cases hxy : x = y
    · subst hxy
      simp [h, lookup]
    · cases hy : (σ.find y).isNone <;> simp [lookup, hxy, ih]

theorem erase_setVar {σ : Subst} {x : Nat} (h : σ.find x = none) (v : Val) (env : List (Nat × Val)) :
    erase σ (setVar x v env) = setVar x v (erase σ env) := by
  induction env with
  | nil => simp [erase, setVar, h]
  | cons yv r ih =>
    obtain ⟨y, w⟩ := yv
    simp only [erase] at ih
    by_cases hxy : x = y
    · subst hxy
      simp [erase, setVar, h]
    · cases hy : (σ.find y).isNone <;> simp [erase, setVar, hxy, hy, ih]

theorem lookup_setVar_ne {x y : Nat} (h : y ≠ x) (v : Val) (env : List (Nat × Val)) :
    lookup y (setVar x v env) = lookup y env := by
  induction env with
  | nil => simp [setVar, lookup, h]
  | cons zw r ih =>
    obtain ⟨z, w⟩ := zw
    by_cases hxz : x = z
    · subst hxz
      simp [setVar, lookup, h]
    · by_cases hyz : y = z <;> simp [setVar, lookup, hxz, hyz, ih]

theorem agree_setVar {σ : Subst} {x : Nat} (h : σ.find x = none) (v : Val) {env : List (Nat × Val)}
    (hA : Agree σ env) : Agree σ (setVar x v env) := by
  intro y c hc
  have hne : y ≠ x := by
    intro e
    subst e
    rw [h] at hc
    cases hc
  rw [lookup_setVar_ne hne]
  exact hA y c hc

@[simp] theorem mapR_ok (σ : Subst) {α : Type} (a : α) (st : St) :
    mapR σ (.ok (a, st)) = .ok (a, eraseSt σ st) := rfl
@[simp] theorem mapR_error (σ : Subst) {α : Type} (flt : Fault) (st : St) :
    mapR σ (α := α) (.error (flt, st)) = .error (flt, eraseSt σ st) := rfl
@[simp] theorem mapR3_ok (σ : Subst) (sig : Sig) (regs : List Stmt) (st : St) :
    mapR3 σ (.ok (sig, regs, st)) = .ok (sig, substSs σ regs, eraseSt σ st) := rfl
@[simp] theorem mapR3_error (σ : Subst) (flt : Fault) (st : St) :
    mapR3 σ (.error (flt, st)) = .error (flt, eraseSt σ st) := rfl
@[simp] theorem GoodR_ok (σ : Subst) {α : Type} (a : α) (st : St) :
    GoodR σ (.ok (a, st)) = Agree σ st.env := rfl
@[simp] theorem GoodR_error (σ : Subst) {α : Type} (flt : Fault) (st : St) :
    GoodR σ (α := α) (.error (flt, st)) = Agree σ st.env := rfl
@[simp] theorem GoodR3_ok (σ : Subst) (sig : Sig) (regs : List Stmt) (st : St) :
    GoodR3 σ (.ok (sig, regs, st)) = (Agree σ st.env ∧ okSs σ regs = true) := rfl
@[simp] theorem GoodR3_error (σ : Subst) (flt : Fault) (st : St) :
    GoodR3 σ (.error (flt, st)) = Agree σ st.env := rfl

/-- the relation of the simulation: `r'` the run of the substituted syntax, `r` the original run -/
def Sim (σ : Subst) {α : Type} (r' r : Except (Fault × St) (α × St)) : Prop :=
  r' = mapR σ r ∧ GoodR σ r

/-- `Sim` for statement results, which also return the defers registered so far: substituted on the
left, still free of the comptime parameters (`okSs`) on the right -/
def Sim3 (σ : Subst) (r' r : Except (Fault × St) (Sig × List Stmt × St)) : Prop :=
  r' = mapR3 σ r ∧ GoodR3 σ r

section
variable {σ : Subst} {α : Type} {env : List (Nat × Val)} {out : List String}

-- States are written `⟨erase σ env, out⟩`, to which `eraseSt σ st` unfolds (`St` has exactly `env`
-- and `out`): so the four lemmas also close the leaves where the interpreter builds a state (call,
-- `print`, `setVar`).
theorem Sim.ok {a : α} (h : Agree σ env) :
    Sim σ (.ok (a, ⟨erase σ env, out⟩)) (.ok (a, ⟨env, out⟩)) := ⟨rfl, h⟩

theorem Sim.error {flt : Fault} (h : Agree σ env) :
    Sim σ (α := α) (.error (flt, ⟨erase σ env, out⟩)) (.error (flt, ⟨env, out⟩)) := ⟨rfl, h⟩

theorem Sim3.ok {sig : Sig} {regs : List Stmt} (h : Agree σ env) (hr : okSs σ regs = true) :
    Sim3 σ (.ok (sig, substSs σ regs, ⟨erase σ env, out⟩)) (.ok (sig, regs, ⟨env, out⟩)) :=
  ⟨rfl, h, hr⟩

theorem Sim3.error {flt : Fault} (h : Agree σ env) :
    Sim3 σ (.error (flt, ⟨erase σ env, out⟩)) (.error (flt, ⟨env, out⟩)) := ⟨rfl, h⟩

theorem Sim.cases {r' r : Except (Fault × St) (α × St)} (h : Sim σ r' r) :
    (∃ flt st, Agree σ st.env ∧ r' = .error (flt, eraseSt σ st) ∧ r = .error (flt, st)) ∨
    (∃ a st, Agree σ st.env ∧ r' = .ok (a, eraseSt σ st) ∧ r = .ok (a, st)) := by
  obtain ⟨rfl, g⟩ := h
  rcases r with ⟨flt, st⟩ | ⟨a, st⟩
  · exact .inl ⟨flt, st, g, rfl, rfl⟩
  · exact .inr ⟨a, st, g, rfl, rfl⟩

theorem Sim3.cases {r' r : Except (Fault × St) (Sig × List Stmt × St)} (h : Sim3 σ r' r) :
    (∃ flt st, Agree σ st.env ∧ r' = .error (flt, eraseSt σ st) ∧ r = .error (flt, st)) ∨
    (∃ sig regs st, (Agree σ st.env ∧ okSs σ regs = true) ∧
      r' = .ok (sig, substSs σ regs, eraseSt σ st) ∧ r = .ok (sig, regs, st)) := by
  obtain ⟨rfl, g⟩ := h
  rcases r with ⟨flt, st⟩ | ⟨sig, regs, st⟩
  · exact .inl ⟨flt, st, g, rfl, rfl⟩
  · exact .inr ⟨sig, regs, st, g, rfl, rfl⟩

end

/-- The interpreter sequences by `match r with | .error e => .error e | .ok (v, st) => …`, an
auxiliary matcher that no lemma about a `bind` applies to. `step ih => v st g` analyses a
sub-evaluation whose two runs are related by `ih : Sim σ r' r`: both results are rewritten in the
goal (`Sim.cases`); a fault is passed on unchanged, which closes that case; what remains is the
case of a value `v` in a state `st` with `g : Agree σ st.env`. -/
macro "step " ih:term:max " => " v:ident ppSpace st:ident ppSpace g:ident : tactic =>
  `(tactic| (
    obtain ⟨_, $st:ident, $g:ident, e', e⟩ | ⟨$v:ident, $st:ident, $g:ident, e', e⟩ := Sim.cases $ih <;>
      simp only [e', e]
    · exact .error $g))

theorem substS_switch (σ : Subst) (scrut : Expr) (arg : Option Nat)
    (arms : List (Nat × List Stmt)) (dflt : Option (List Stmt)) :
    substS σ (.switchS scrut arg arms dflt)
      = .switchS (substE σ scrut) arg (substArms σ arms) (dflt.map (substSs σ)) := by
  cases dflt <;> simp [substS]

theorem okS_switch (σ : Subst) (scrut : Expr) (arg : Option Nat)
    (arms : List (Nat × List Stmt)) (dflt : Option (List Stmt)) :
    okS σ (.switchS scrut arg arms dflt) = (okArg σ arg && okArms σ arms && dflt.all (okSs σ)) := by
  cases dflt <;> simp [okS]

/-- substitution keeps the keys of the arms, so it commutes with the arm lookup -/
theorem find_substArms (σ : Subst) (k : Nat) (arms : List (Nat × List Stmt)) :
    (substArms σ arms).find? (fun a => a.1 == k)
      = (arms.find? (fun a => a.1 == k)).map (fun a => (a.1, substSs σ a.2)) := by
  induction arms with
  | nil => simp [substArms]
  | cons a r ih =>
    obtain ⟨k', b⟩ := a
    simp only [substArms, List.find?_cons]
    cases hk : k' == k <;> simp [ih]

theorem okArms_find {σ : Subst} {k : Nat} {arms : List (Nat × List Stmt)} {a : Nat × List Stmt}
    (h : okArms σ arms = true) (hf : arms.find? (fun a => a.1 == k) = some a) :
    okSs σ a.2 = true := by
  induction arms with
  | nil => simp at hf
  | cons a' r ih =>
    obtain ⟨k', b⟩ := a'
    simp only [okArms, Bool.and_eq_true] at h
    simp only [List.find?_cons] at hf
    cases hk : k' == k
    · rw [hk] at hf
      exact ih h.2 hf
    · rw [hk] at hf
      cases hf
      exact h.1

/-- which variant is current, and its payload -/
def selOf : Val → Option (Nat × Val)
  | .variant k pl => some (k, pl)
  | .nil => some (0, .nil)
  | .some pl => some (1, pl)
  | .eu false e => some (0, e)
  | .eu true o => some (1, o)
  | _ => none

/-- the `st2` of the `switchS` clause of `execSCore` -/
def bindArg (arg : Option Nat) (u : Val) (st : St) : St :=
  match arg with
  | some x => { st with env := setVar x u st.env }
  | none => st

/-- arm selection and execution, once the current variant `k`/payload `pl` are known
(`w` is the whole scrutinee value, bound by the default arm) -/
def switchTail (p : Program) (n : Nat) (arg : Option Nat) (regs : List Stmt) (st1 : St) (w : Val)
    (arms : List (Nat × List Stmt)) (dflt : Option (List Stmt)) (k : Nat) (pl : Val) :
    Except (Fault × St) (Sig × List Stmt × St) :=
  match arms.find? (fun a => a.1 == k), dflt with
  | some (_, body), _ =>
    match execBlock p n body (bindArg arg pl st1) with
    | .error e => .error e
    | .ok (sig, st3) => .ok (sig, regs, st3)
  | none, some body =>
    match execBlock p n body (bindArg arg w st1) with
    | .error e => .error e
    | .ok (sig, st3) => .ok (sig, regs, st3)
  | none, none => .error (.stuck "switch does not cover the variant", st1)

/-- what `selOf`, `bindArg` and `switchTail` are for: the `switchS` clause as a term that
`SimAt.succ` can take apart piece by piece -/
theorem execSCore_switch (p : Program) (n : Nat) (scrut : Expr) (arg : Option Nat)
    (arms : List (Nat × List Stmt)) (dflt : Option (List Stmt)) (regs : List Stmt) (st : St) :
    execSCore p (n + 1) (.switchS scrut arg arms dflt) regs st =
      match evalE p n scrut st with
      | .error e => .error e
      | .ok (v, st1) =>
        match selOf v with
        | none => .error (.stuck "switch on a non-sum value", st1)
        | some (k, pl) => switchTail p n arg regs st1 v arms dflt k pl := by
  rfl

theorem bindArg_erase {σ : Subst} {arg : Option Nat} (h : okArg σ arg = true) (u : Val) (st : St) :
    bindArg arg u (eraseSt σ st) = eraseSt σ (bindArg arg u st) := by
  cases arg with
  | none => rfl
  | some x =>
    simp only [okArg, Option.isNone_iff_eq_none] at h
    simp [bindArg, eraseSt, erase_setVar h]

theorem bindArg_agree {σ : Subst} {arg : Option Nat} (h : okArg σ arg = true) (u : Val) {st : St}
    (hA : Agree σ st.env) : Agree σ (bindArg arg u st).env := by
  cases arg with
  | none => exact hA
  | some x =>
    simp only [okArg, Option.isNone_iff_eq_none] at h
    exact agree_setVar h u hA

/-- the simulation at fuel `n`, for each of the nine mutual interpreter functions: if the
environment binds the comptime parameters (`Agree`), running the *substituted* syntax in the
*erased* state gives the image of running the original syntax (`Sim`/`Sim3`) -/
structure SimAt (p : Program) (σ : Subst) (n : Nat) : Prop where
  evalE : ∀ e st, Agree σ st.env →
    Sim σ (evalE p n (substE σ e) (eraseSt σ st)) (evalE p n e st)
  evalArgs : ∀ es st, Agree σ st.env →
    Sim σ (evalArgs p n (substEs σ es) (eraseSt σ st)) (evalArgs p n es st)
  readPlace : ∀ pl st, Agree σ st.env → σ.find (rootP pl) = none →
    Sim σ (readPlace p n (substP σ pl) (eraseSt σ st)) (readPlace p n pl st)
  writePlace : ∀ pl v st, Agree σ st.env → σ.find (rootP pl) = none →
    Sim σ (writePlace p n (substP σ pl) v (eraseSt σ st)) (writePlace p n pl v st)
  execS : ∀ s regs st, Agree σ st.env → okS σ s = true → okSs σ regs = true →
    Sim3 σ (execS p n (substS σ s) (substSs σ regs) (eraseSt σ st)) (execS p n s regs st)
  execStmts : ∀ ss regs st, Agree σ st.env → okSs σ ss = true → okSs σ regs = true →
    Sim3 σ (execStmts p n (substSs σ ss) (substSs σ regs) (eraseSt σ st)) (execStmts p n ss regs st)
  runDefers : ∀ ds st, Agree σ st.env → okSs σ ds = true →
    Sim σ (runDefers p n (substSs σ ds) (eraseSt σ st)) (runDefers p n ds st)
  execBlock : ∀ body st, Agree σ st.env → okSs σ body = true →
    Sim σ (execBlock p n (substSs σ body) (eraseSt σ st)) (execBlock p n body st)
  execSCore : ∀ s regs st, Agree σ st.env → okS σ s = true → okSs σ regs = true →
    Sim3 σ (execSCore p n (substS σ s) (substSs σ regs) (eraseSt σ st)) (execSCore p n s regs st)

section
variable {p : Program} {σ : Subst} {n : Nat}

theorem SimAt.switchTail (ih : SimAt p σ n) (arg : Option Nat) (regs : List Stmt) (st1 : St)
    (w : Val) (arms : List (Nat × List Stmt)) (dflt : Option (List Stmt)) (k : Nat) (pl : Val)
    (g1 : Agree σ st1.env) (harg : okArg σ arg = true) (harms : okArms σ arms = true)
    (hd : dflt.all (okSs σ) = true) (hregs : okSs σ regs = true) :
    Sim3 σ
      (switchTail p n arg (substSs σ regs) (eraseSt σ st1) w (substArms σ arms) (dflt.map (substSs σ)) k pl)
      (switchTail p n arg regs st1 w arms dflt k pl) := by
  simp only [Generic.switchTail, find_substArms]
  cases hfind : arms.find? (fun a => a.1 == k) with
  | some a =>
    simp only [Option.map_some, bindArg_erase harg]
    step (ih.execBlock a.2 _ (bindArg_agree harg pl g1) (okArms_find harms hfind)) => sig st3 g3
    exact .ok g3 hregs
  | none =>
    cases dflt with
    | none => exact .error g1
    | some d =>
      simp only [Option.map_none, Option.map_some, bindArg_erase harg]
      step (ih.execBlock d _ (bindArg_agree harg w g1) hd) => sig st3 g3
      exact .ok g3 hregs

/-- one more unit of fuel. Every case unfolds one clause of the interpreter, walks through its
sub-evaluations with `step`, and ends in leaves that return the state reached (`Sim.ok`,
`Sim.error`) or hand over to another interpreter function at fuel `n`. -/
theorem SimAt.succ (ih : SimAt p σ n) : SimAt p σ (n + 1) where
  evalE e st hA := by
    cases e with
    | lit | blit | nilE => exact .ok hA
    | var x =>
      cases hf : σ.find x with
      | some c =>
        simp only [substE, hf, Core.evalE, hA x c hf]
        exact .ok hA
      | none =>
        simp only [substE, hf, Core.evalE, eraseSt_env, lookup_erase hf]
        cases lookup x st.env with
        | some v => exact .ok hA
        | none => exact .error hA
    | bin op t a b =>
      simp only [Core.evalE, substE]
      step (ih.evalE a st hA) => va st1 g1
      step (ih.evalE b st1 g1) => vb st2 g2
      cases va with
      | int x =>
        cases vb with
        | int y =>
          dsimp only
          cases binInt op t x y with
          | some r => exact .ok g2
          | none => exact .error g2
        | _ => exact .error g2
      | _ => exact .error g2
    | cmp op _ a b =>
      simp only [Core.evalE, substE]
      step (ih.evalE a st hA) => va st1 g1
      step (ih.evalE b st1 g1) => vb st2 g2
      cases va with
      | int x =>
        cases vb with
        | int y => exact .ok g2
        | _ => exact .error g2
      | bool x =>
        cases vb with
        | bool y =>
          cases op with
          | eq | ne => exact .ok g2
          | _ => exact .error g2
        | _ => exact .error g2
      | _ => exact .error g2
    | index a i =>
      simp only [Core.evalE, substE]
      step (ih.evalE a st hA) => va st1 g1
      step (ih.evalE i st1 g1) => vi st2 g2
      cases va with
      | arr vs =>
        cases vi with
        | int k =>
          dsimp only
          split
          · exact .error g2
          · cases vs[k.toNat]? with
            | some v => exact .ok g2
            | none => exact .error g2
        | _ => exact .error g2
      | _ => exact .error g2
    | land a b | lor a b | ite a b c =>  -- `a` is the operand evaluated first (for `ite`: the condition)
      simp only [Core.evalE, substE]
      step (ih.evalE a st hA) => va st1 g1
      cases va with
      | bool bb => cases bb <;> first | exact ih.evalE _ _ g1 | exact .ok g1
      | _ => exact .error g1
    | lnot a | neg _ a | bnot _ a | someE a | unwrap a | isSome a | isVariant _ a | euLit _ a
    | euIsOk a =>
      simp only [Core.evalE, substE]
      step (ih.evalE a st hA) => va st1 g1
      cases va <;> first | exact .error g1 | exact .ok g1
    | cast src dst a =>
      simp only [Core.evalE, substE]
      step (ih.evalE a st hA) => va st1 g1
      cases castVal src dst va with
      | some r => exact .ok g1
      | none => exact .error g1
    | field a k =>
      simp only [Core.evalE, substE]
      step (ih.evalE a st hA) => va st1 g1
      cases va with
      | struct fs =>
        dsimp only
        cases fs[k]? with
        | some v => exact .ok g1
        | none => exact .error g1
      | _ => exact .error g1
    | unwrapVariant k a =>
      simp only [Core.evalE, substE]
      step (ih.evalE a st hA) => va st1 g1
      cases va with
      | variant k' v =>
        dsimp only
        split
        · exact .ok g1
        · exact .error g1
      | _ => exact .error g1
    | euUnwrap isOk a =>
      simp only [Core.evalE, substE]
      step (ih.evalE a st hA) => va st1 g1
      cases va with
      | eu b v =>
        dsimp only
        split
        · exact .ok g1
        · exact .error g1
      | _ => exact .error g1
    | tryE a =>
      simp only [Core.evalE, substE]
      step (ih.evalE a st hA) => va st1 g1
      cases va with
      | some v => exact .ok g1
      | eu b v => cases b <;> first | exact .error g1 | exact .ok g1
      | _ => exact .error g1
    | variantLit k o =>
      cases o with
      | none => exact .ok hA
      | some a =>
        simp only [Core.evalE, substE]
        step (ih.evalE a st hA) => va st1 g1
        exact .ok g1
    | arrLit es | structLit _ es =>
      simp only [Core.evalE, substE]
      step (ih.evalArgs es st hA) => vs st1 g1
      exact .ok g1
    | call f args =>
      -- the callee runs in a state that does not depend on the caller's environment: the same
      -- run on both sides; only the caller's environment is put back
      simp only [Core.evalE, substE]
      step (ih.evalArgs args st hA) => vs st1 g1
      simp only [eraseSt_out, eraseSt_env]
      cases p.fns[f]? with
      | none => exact .error g1
      | some fn =>
        dsimp only
        split
        · exact .error g1
        · cases Core.execBlock p n fn.body { env := fn.params.zip vs, out := st1.out } with
          | error e => exact .error g1
          | ok r =>
            obtain ⟨sig, st2⟩ := r
            cases sig <;> first | exact .ok g1 | exact .error g1
  evalArgs es st hA := by
    cases es with
    | nil => exact .ok hA
    | cons e es =>
      simp only [Core.evalArgs, substEs]
      step (ih.evalE e st hA) => v st1 g1
      step (ih.evalArgs es st1 g1) => vs st2 g2
      exact .ok g2
  readPlace pl st hA hr := by
    cases pl with
    | var x =>
      simp only [Core.readPlace, substP, eraseSt_env, lookup_erase (x := x) hr]
      cases lookup x st.env with
      | some v => exact .ok hA
      | none => exact .error hA
    | index q i =>
      simp only [Core.readPlace, substP]
      step (ih.readPlace q st hA hr) => vq st1 g1
      step (ih.evalE i st1 g1) => vi st2 g2
      cases vq with
      | arr vs =>
        cases vi with
        | int k =>
          dsimp only
          split
          · exact .error g2
          · cases vs[k.toNat]? with
            | some v => exact .ok g2
            | none => exact .error g2
        | _ => exact .error g2
      | _ => exact .error g2
    | field q k =>
      simp only [Core.readPlace, substP]
      step (ih.readPlace q st hA hr) => vq st1 g1
      cases vq with
      | struct fs =>
        dsimp only
        cases fs[k]? with
        | some v => exact .ok g1
        | none => exact .error g1
      | _ => exact .error g1
  writePlace pl v st hA hr := by
    cases pl with
    | var x =>
      simp only [Core.writePlace, substP, eraseSt, ← erase_setVar (x := x) hr]
      exact .ok (agree_setVar (x := x) hr v hA)
    | index q i =>
      simp only [Core.writePlace, substP]
      step (ih.readPlace q st hA hr) => vq st1 g1
      step (ih.evalE i st1 g1) => vi st2 g2
      cases vq with
      | arr vs =>
        cases vi with
        | int k =>
          dsimp only
          split
          · exact .error g2
          · split
            · exact ih.writePlace q _ st2 g2 hr
            · exact .error g2
        | _ => exact .error g2
      | _ => exact .error g2
    | field q k =>
      simp only [Core.writePlace, substP]
      step (ih.readPlace q st hA hr) => vq st1 g1
      cases vq with
      | struct fs =>
        dsimp only
        split
        · exact ih.writePlace q _ st1 g1 hr
        · exact .error g1
      | _ => exact .error g1
  execS s regs st hA hs hregs := by
    -- the wrapper turning a `.propagate` fault into a `return`
    simp only [Core.execS]
    obtain ⟨flt, st1, g, e', e⟩ | ⟨sig, regs', st1, ⟨g, hr⟩, e', e⟩ :=
      (ih.execSCore s regs st hA hs hregs).cases <;> simp only [e', e]
    · cases flt with
      | propagate v => exact .ok g hregs
      | _ => exact .error g
    · exact .ok g hr
  execStmts ss regs st hA hss hregs := by
    cases ss with
    | nil => exact .ok hA hregs
    | cons s rest =>
      simp only [okSs, Bool.and_eq_true] at hss
      simp only [Core.execStmts, substSs]
      obtain ⟨_, st', g, e', e⟩ | ⟨sig, regs', st', ⟨g, hr⟩, e', e⟩ :=
        (ih.execS s regs st hA hss.1 hregs).cases <;> simp only [e', e]
      · exact .error g
      · cases sig with
        | normal => exact ih.execStmts rest regs' st' g hss.2 hr
        | _ => exact .ok g hr
  runDefers ds st hA hds := by
    cases ds with
    | nil => exact .ok hA
    | cons d rest =>
      simp only [okSs, Bool.and_eq_true] at hds
      simp only [Core.runDefers, substSs]
      -- `ih.execS d [] …` speaks of `substSs σ []` where the goal has `[]`
      obtain ⟨_, st', g, e', e⟩ | ⟨sig, regs', st', ⟨g, hr⟩, e', e⟩ :=
        (ih.execS d [] st hA hds.1 rfl).cases <;> simp only [substSs] at e' <;> simp only [e', e]
      · exact .error g
      · exact ih.runDefers rest st' g hds.2
  execBlock body st hA hb := by
    simp only [Core.execBlock]
    -- as in `runDefers`: `substSs σ []` against `[]`
    obtain ⟨_, st', g, e', e⟩ | ⟨sig, regs, st', ⟨g, hr⟩, e', e⟩ :=
      (ih.execStmts body [] st hA hb rfl).cases <;> simp only [substSs] at e' <;> simp only [e', e]
    · exact .error g
    · step (ih.runDefers regs st' g hr) => u st'' g2
      exact .ok g2
  execSCore s regs st hA hs hregs := by
    cases s with
    | letS x e =>
      simp only [okS, Option.isNone_iff_eq_none] at hs
      simp only [Core.execSCore, substS]
      step (ih.evalE e st hA) => v st1 g1
      simp only [eraseSt, ← erase_setVar hs]
      exact .ok (agree_setVar hs v g1) hregs
    | assign pl e =>
      simp only [okS, Option.isNone_iff_eq_none] at hs
      simp only [Core.execSCore, substS]
      step (ih.evalE e st hA) => v st1 g1
      step (ih.writePlace pl v st1 g1 hs) => u st2 g2
      exact .ok g2 hregs
    | opAssign op t pl e =>
      simp only [okS, Option.isNone_iff_eq_none] at hs
      simp only [Core.execSCore, substS]
      step (ih.readPlace pl st hA hs) => cur st1 g1
      step (ih.evalE e st1 g1) => v st2 g2
      cases cur with
      | int a =>
        cases v with
        | int b =>
          dsimp only
          cases binInt op t a b with
          | none => exact .error g2
          | some r =>
            dsimp only
            step (ih.writePlace pl (.int r) st2 g2 hs) => u st3 g3
            exact .ok g3 hregs
        | _ => exact .error g2
      | _ => exact .error g2
    | print e =>
      simp only [Core.execSCore, substS]
      step (ih.evalE e st hA) => v st1 g1
      exact .ok g1 hregs
    | ifS c a b =>
      simp only [okS, Bool.and_eq_true] at hs
      simp only [Core.execSCore, substS]
      step (ih.evalE c st hA) => vc st1 g1
      cases vc with
      | bool bb =>
        cases bb <;> dsimp only
        · step (ih.execBlock b st1 g1 hs.2) => sig st2 g2
          exact .ok g2 hregs
        · step (ih.execBlock a st1 g1 hs.1) => sig st2 g2
          exact .ok g2 hregs
      | _ => exact .error g1
    | whileS l c body =>
      -- the loop goes round through `execS` at fuel `n`, on the same statement
      have hloop := fun st2 g2 => ih.execS (.whileS l c body) regs st2 g2 hs hregs
      simp only [okS] at hs
      simp only [Core.execSCore, substS] at hloop ⊢
      step (ih.evalE c st hA) => vc st1 g1
      cases vc with
      | bool bb =>
        cases bb <;> dsimp only
        · exact .ok g1 hregs
        · step (ih.execBlock body st1 g1 hs) => sig st2 g2
          cases sig with
          | normal => exact hloop st2 g2
          | cont l' =>
            dsimp only
            split
            · exact hloop st2 g2
            · exact .ok g2 hregs
          | brk l' =>
            dsimp only
            split <;> exact .ok g2 hregs
          | ret v => exact .ok g2 hregs
      | _ => exact .error g1
    | block label body =>
      simp only [okS] at hs
      simp only [Core.execSCore, substS]
      step (ih.execBlock body st hA hs) => sig st1 g1
      split
      · split <;> exact .ok g1 hregs
      · exact .ok g1 hregs
    | brk | cont => exact .ok hA hregs
    | ret o =>
      cases o with
      | none => exact .ok hA hregs
      | some e =>
        simp only [Core.execSCore, substS]
        step (ih.evalE e st hA) => v st1 g1
        exact .ok g1 hregs
    | deferS d =>
      simp only [okS] at hs
      exact .ok (regs := d :: regs) hA (by simp only [okSs, hs, hregs, Bool.and_self])
    | exprS e =>
      simp only [Core.execSCore, substS]
      step (ih.evalE e st hA) => v st1 g1
      exact .ok g1 hregs
    | switchS scrut arg arms dflt =>
      simp only [okS_switch, Bool.and_eq_true] at hs
      obtain ⟨⟨harg, harms⟩, hd⟩ := hs
      simp only [substS_switch, execSCore_switch]
      step (ih.evalE scrut st hA) => v st1 g1
      cases hsel : selOf v with
      | none => exact .error g1
      | some kp =>
        obtain ⟨k, pl⟩ := kp
        exact ih.switchTail arg regs st1 v arms dflt k pl g1 harg harms hd hregs

end

theorem sim (p : Program) (σ : Subst) : ∀ n, SimAt p σ n
  -- at fuel 0 every interpreter function is `.error (.outOfFuel, st)`, on both sides
  | 0 => by constructor <;> intros <;> exact .error ‹_›
  | n + 1 => (sim p σ n).succ

theorem subst_body (p : Program) (σ : Subst) (fuel : Nat) (body : List Stmt) (st : St)
    (hA : Agree σ st.env) (hok : okSs σ body = true) :
    execBlock p fuel (substSs σ body) (eraseSt σ st) = mapR σ (execBlock p fuel body st) :=
  ((sim p σ fuel).execBlock body st hA hok).1

theorem subst_expr (p : Program) (σ : Subst) (fuel : Nat) (e : Expr) (st : St)
    (hA : Agree σ st.env) :
    evalE p fuel (substE σ e) (eraseSt σ st) = mapR σ (evalE p fuel e st) :=
  ((sim p σ fuel).evalE e st hA).1

theorem subst_stmt (p : Program) (σ : Subst) (fuel : Nat) (s : Stmt) (regs : List Stmt) (st : St)
    (hA : Agree σ st.env) (hs : okS σ s = true) (hregs : okSs σ regs = true) :
    execS p fuel (substS σ s) (substSs σ regs) (eraseSt σ st) = mapR3 σ (execS p fuel s regs st) :=
  ((sim p σ fuel).execS s regs st hA hs hregs).1

theorem mkSubst_ids (g : GFn) (cs : List Int) (h : cs.length = g.cparams.length) :
    (mkSubst g cs).map (·.x) = g.cparams.map (·.1) := by
  rw [← congrArg (List.map (·.1)) (List.map_fst_zip (l₂ := cs) (Nat.le_of_eq h.symm))]
  simp only [mkSubst, List.map_map, Function.comp_def]

theorem mkSubst_length (g : GFn) (cs : List Int) (h : cs.length = g.cparams.length) :
    (mkSubst g cs).length = g.cparams.length := by
  simp [mkSubst, h]

theorem lookup_zip_append {x : Nat} {ps : List Nat} (h : x ∉ ps) (vs : List Val)
    (env : List (Nat × Val)) : lookup x (ps.zip vs ++ env) = lookup x env := by
  induction ps generalizing vs with
  | nil => simp
  | cons q ps ih =>
    cases vs with
    | nil => simp
    | cons v vs =>
      simp only [List.mem_cons, not_or] at h
      simp only [List.zip_cons_cons, List.cons_append, lookup, h.1, ↓reduceIte]
      exact ih h.2 vs

theorem lookup_self (σ : Subst) {x : Nat} {c : CArg} (h : σ.find x = some c) :
    lookup x (σ.map (fun c => (c.x, cval c))) = some (cval c) := by
  induction σ with
  | nil => simp [Subst.find] at h
  | cons d r ih =>
    simp only [Subst.find] at h
    simp only [List.map_cons, lookup]
    by_cases hd : d.x = x
    · simp only [hd, ↓reduceIte, Option.some.injEq] at h ⊢
      rw [h]
    · have hd' : ¬ x = d.x := fun e => hd e.symm
      simp only [hd, hd', ↓reduceIte] at h ⊢
      exact ih h

/-- the callee environment of the reference call binds the comptime parameters -/
theorem agree_callee (σ : Subst) (ps : List Nat) (vs : List Val)
    (hd : ∀ x ∈ ps, σ.find x = none) :
    Agree σ (ps.zip vs ++ σ.map (fun c => (c.x, cval c))) := by
  intro x c hc
  have hx : x ∉ ps := by
    intro hm
    rw [hd x hm] at hc
    cases hc
  rw [lookup_zip_append hx]
  exact lookup_self σ hc

/-- erasing the comptime parameters from the callee environment of the reference call leaves the
callee environment of the hand-substituted copy -/
theorem erase_callee (σ : Subst) (ps : List Nat) (vs : List Val)
    (hd : ∀ x ∈ ps, σ.find x = none) :
    erase σ (ps.zip vs ++ σ.map (fun c => (c.x, cval c))) = ps.zip vs := by
  unfold erase
  rw [List.filter_append]
  have h1 : (ps.zip vs).filter (fun yv => (σ.find yv.1).isNone) = ps.zip vs := by
    apply List.filter_eq_self.mpr
    intro yv hm
    have := hd yv.1 (List.of_mem_zip hm).1
    simp [this]
  have h2 : (σ.map (fun c => (c.x, cval c))).filter (fun yv => (σ.find yv.1).isNone) = [] := by
    apply List.filter_eq_nil_iff.mpr
    intro yv hm
    obtain ⟨c, hc, rfl⟩ := List.mem_map.mp hm
    have : σ.find c.x ≠ none := fun h => find_eq_none_iff.mp h (List.mem_map_of_mem hc)
    simp [this]
  rw [h1, h2, List.append_nil]

theorem evalArgs_lits (p : Program) (σ : Subst) : ∀ fuel st,
    evalArgs p fuel (σ.map litOf) st = .ok (σ.map cval, st)
      ∨ evalArgs p fuel (σ.map litOf) st = .error (.outOfFuel, st) := by
  induction σ with
  | nil =>
    intro fuel st
    cases fuel with
    | zero => exact .inr rfl
    | succ m => exact .inl rfl
  | cons c r ih =>
    intro fuel st
    match fuel with
    -- a literal costs one level of `evalArgs` and one of `evalE`
    | 0 | 1 => exact .inr rfl
    | k + 2 =>
      simp only [List.map_cons, evalArgs, litOf, evalE]
      rcases ih (k + 1) st with h | h <;> rw [h]
      · exact .inl rfl
      · exact .inr rfl

theorem evalArgs_append_lits (p : Program) (σ : Subst) : ∀ xs fuel st,
    evalArgs p fuel (xs ++ σ.map litOf) st =
        (match evalArgs p fuel xs st with
        | .ok (vs, st') => .ok (vs ++ σ.map cval, st')
        | .error e => .error e)
      ∨ ∃ st', evalArgs p fuel (xs ++ σ.map litOf) st = .error (.outOfFuel, st') := by
  intro xs
  induction xs with
  | nil =>
    intro fuel st
    cases fuel with
    | zero => exact .inr ⟨st, rfl⟩
    | succ m => exact (evalArgs_lits p σ (m + 1) st).imp id fun h => ⟨st, h⟩
  | cons e es ih =>
    intro fuel st
    cases fuel with
    | zero => exact .inr ⟨st, rfl⟩
    | succ m =>
      simp only [List.cons_append, evalArgs]
      cases evalE p m e st with
      | error err => exact .inl rfl
      | ok r =>
        rcases ih m r.2 with h | ⟨st', h⟩ <;> simp only [h]
        · cases evalArgs p m es r.2 <;> exact .inl rfl
        · exact .inr ⟨st', rfl⟩

/-- **Substitution lemma.** Calling the hand-substituted copy `g.inst cs` with the runtime
arguments computes exactly what the reference generic call (the ordinary call of `g.asFn` with
the comptime literals appended) computes, whenever the latter does not run out of fuel. Only this
direction: the reference call spends fuel on the appended literals (`evalArgs_append_lits`), so the
copy may finish where the reference call runs out. -/
theorem subst_lemma (p : Program) (g : GFn) (cs : List Int) (xs : List Expr) (f f' : Nat)
    (hf : p.fns[f]? = some g.asFn) (hf' : p.fns[f']? = some (g.inst cs))
    (hcs : cs.length = g.cparams.length)
    (hok : okSs (mkSubst g cs) g.body = true)
    (hdisj : ∀ x ∈ g.rparams, x ∉ g.cparams.map (·.1))
    (fuel : Nat) (st : St)
    (hfuel : ∀ st', evalE p fuel (.call f (xs ++ litArgs g cs)) st ≠ .error (.outOfFuel, st')) :
    evalE p fuel (.call f' xs) st = evalE p fuel (.call f (xs ++ litArgs g cs)) st := by
  cases fuel with
  | zero => exact absurd rfl (hfuel st)
  | succ n =>
    have hσ : ∀ x ∈ g.rparams, (mkSubst g cs).find x = none := fun x hx =>
      find_eq_none_iff.mpr (mkSubst_ids g cs hcs ▸ hdisj x hx)
    rw [litArgs, evalE] at hfuel
    rw [litArgs, evalE, evalE]
    rcases evalArgs_append_lits p (mkSubst g cs) xs n st with h | ⟨st', h⟩
    · rw [h]
      cases evalArgs p n xs st with
      | error err => rfl
      | ok r =>
        obtain ⟨vs₁, st1⟩ := r
        simp only [hf, hf', GFn.asFn, GFn.inst, List.length_append, List.length_map,
          mkSubst_length g cs hcs]
        by_cases hl : g.rparams.length = vs₁.length
        · simp only [hl, ne_eq, not_true_eq_false, ↓reduceIte]
          rw [List.zip_append hl, ← mkSubst_ids g cs hcs, List.zip_map']
          have hA := agree_callee (mkSubst g cs) g.rparams vs₁ hσ
          have hE := erase_callee (mkSubst g cs) g.rparams vs₁ hσ
          have hB := subst_body p (mkSubst g cs) n g.body
            { env := g.rparams.zip vs₁ ++ (mkSubst g cs).map (fun c => (c.x, cval c)),
              out := st1.out } hA hok
          simp only [eraseSt, hE] at hB
          rw [hB]
          cases execBlock p n g.body
            { env := g.rparams.zip vs₁ ++ (mkSubst g cs).map (fun c => (c.x, cval c)),
              out := st1.out } with
          | error err => rfl
          | ok r =>
            obtain ⟨sig, st2⟩ := r
            cases sig <;> rfl
        · simp [hl]
    · exact absurd (by rw [h]) (hfuel st')

/-- the same with the comptime ids pairwise distinct and disjoint from the runtime parameters,
stated as `Nodup` of the reference parameter list -/
theorem subst_lemma_nodup (p : Program) (g : GFn) (cs : List Int) (xs : List Expr) (f f' : Nat)
    (hf : p.fns[f]? = some g.asFn) (hf' : p.fns[f']? = some (g.inst cs))
    (hcs : cs.length = g.cparams.length)
    (hok : okSs (mkSubst g cs) g.body = true)
    (hnd : (g.rparams ++ g.cparams.map (·.1)).Nodup)
    (fuel : Nat) (st : St)
    (hfuel : ∀ st', evalE p fuel (.call f (xs ++ litArgs g cs)) st ≠ .error (.outOfFuel, st')) :
    evalE p fuel (.call f' xs) st = evalE p fuel (.call f (xs ++ litArgs g cs)) st :=
  subst_lemma p g cs xs f f' hf hf' hcs hok
    (fun x hx hc => (List.nodup_append.mp hnd).2.2 x hx x hc rfl) fuel st hfuel

theorem call_index_irrelevant (p : Program) (fn : Fn) (f1 f2 : Nat)
    (h1 : p.fns[f1]? = some fn) (h2 : p.fns[f2]? = some fn)
    (xs : List Expr) (fuel : Nat) (st : St) :
    evalE p fuel (.call f1 xs) st = evalE p fuel (.call f2 xs) st := by
  cases fuel with
  | zero => rfl
  | succ n => rw [evalE, evalE, h1, h2]

/-- two copies made from equal comptime arguments are interchangeable -/
theorem equal_args_equal_copy (p : Program) (g : GFn) (cs : List Int) (f1 f2 : Nat)
    (h1 : p.fns[f1]? = some (g.inst cs)) (h2 : p.fns[f2]? = some (g.inst cs))
    (xs : List Expr) (fuel : Nat) (st : St) :
    evalE p fuel (.call f1 xs) st = evalE p fuel (.call f2 xs) st :=
  call_index_irrelevant p (g.inst cs) f1 f2 h1 h2 xs fuel st

theorem instTy_call (p : Program) (F : Ty → GFn) (t : Ty) (f : Nat)
    (h : p.fns[f]? = some (instTy F t).asFn) : p.fns[f]? = some (F t).asFn := h

namespace Ex
-- the hypotheses of `subst_lemma` hold
example : prog.fns[1]? = some g.asFn := rfl
example : prog.fns[2]? = some (g.inst [7]) := rfl
example : ([7] : List Int).length = g.cparams.length := rfl
example : okSs (mkSubst g [7]) g.body = true := by decide
example : (g.rparams ++ g.cparams.map (·.1)).Nodup := by decide
example : ∀ x ∈ g.rparams, x ∉ g.cparams.map (·.1) := by decide

/-- the instance of `subst_lemma` for this program -/
example (fuel : Nat) (st : St)
    (h : ∀ st', evalE prog fuel (.call 1 ([.lit i32 6] ++ litArgs g [7])) st
          ≠ .error (.outOfFuel, st')) :
    evalE prog fuel (.call 2 [.lit i32 6]) st
      = evalE prog fuel (.call 1 ([.lit i32 6] ++ litArgs g [7])) st :=
  subst_lemma prog g [7] [.lit i32 6] 1 2 rfl rfl rfl (by decide) (by decide) fuel st h

/-- both calls really compute `42`, and the fuel hypothesis is satisfiable -/
example : evalE prog 7 (.call 1 ([.lit i32 6] ++ litArgs g [7])) ⟨[], []⟩
    = .ok (.int 42, ⟨[], []⟩) := by rfl
example : evalE prog 7 (.call 2 [.lit i32 6]) ⟨[], []⟩ = .ok (.int 42, ⟨[], []⟩) := by rfl
example : run prog 12 = ⟨["42", "42"], "exit=0"⟩ := by rfl
end Ex

#print axioms sim
#print axioms subst_body
#print axioms subst_lemma
#print axioms subst_lemma_nodup
#print axioms equal_args_equal_copy

end CapyV.Core.Generic
