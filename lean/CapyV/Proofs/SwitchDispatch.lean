import CapyV.Proofs.Switch
/-!
C11, code generation: the jump table of a tagged union in closed form (`tableEntries_eq`: the keys
`armDiscr` of the arms with their positions), so that a lookup in it is a fact about `List.zipIdx`.
-/
namespace CapyV.Switch
open CapyV

theorem names_mem {e : Bool} {vts : List Ty} {a : Arm} {w : Ty} (h : names e vts a = some w) :
    w ∈ vts := by
  cases a with
  | qualified ty =>
    simp only [names] at h
    split at h <;> simp_all
  | shorthand n =>
    simp only [names] at h
    split at h
    · exact List.mem_of_find?_eq_some h
    · cases h

theorem armTy_eq_names (scrut : Ty) (vts : List Ty) (a : Arm) (w : Ty)
    (hsum : variantTys scrut.absoluteTy = some vts)
    (h : names (isEnum scrut) vts a = some w) : armTy true scrut a = some w := by
  cases a with
  | qualified ty =>
    simp only [names] at h
    split at h <;> simp_all [armTy]
  | shorthand n =>
    -- `names` and `arm_ty` search the same list, the variants of `scrut.absoluteTy`
    unfold isEnum at h
    rcases variantTys_eq_some hsum with ⟨_, hs, rfl⟩ | ⟨_, _, hs, rfl⟩ | ⟨_, _, hs, rfl⟩ <;>
      simp_all [names, armTy]

/-- discriminant of the variant an arm names (`0` where it names none) -/
def armDiscr (e : Bool) (vts : List Ty) (dOf : Ty → Nat) (a : Arm) : Nat :=
  match names e vts a with
  | some w => dOf w
  | none => 0

theorem tableEntries_eq (scrut : Ty) (vts : List Ty) (dOf : Ty → Nat)
    (hsum : variantTys scrut.absoluteTy = some vts)
    (hd : ∀ v ∈ vts, taggedUnionDiscrim scrut v = some (some (dOf v)))
    (arms : List Arm) (hall : ∀ a ∈ arms, (names (isEnum scrut) vts a).isSome) (i : Nat) :
    tableEntries true scrut arms i =
      some ((arms.map (armDiscr (isEnum scrut) vts dOf)).zipIdx i) := by
  induction arms generalizing i with
  | nil => rfl
  | cons a rest ih =>
    obtain ⟨w, hn⟩ := Option.isSome_iff_exists.1 (hall a List.mem_cons_self)
    simp only [tableEntries, armTy_eq_names scrut vts a w hsum hn, hd w (names_mem hn),
      ih (fun b hb => hall b (List.mem_cons_of_mem _ hb)), List.map_cons, List.zipIdx_cons, armDiscr, hn]

theorem armDiscr_of_isSome {e : Bool} {vts : List Ty} (dOf : Ty → Nat) {a : Arm}
    (h : (names e vts a).isSome) :
    ∃ w ∈ vts, names e vts a = some w ∧ armDiscr e vts dOf a = dOf w := by
  obtain ⟨w, hn⟩ := Option.isSome_iff_exists.1 h
  exact ⟨w, names_mem hn, hn, by simp [armDiscr, hn]⟩

theorem compileSwitch_table (scrut : Ty) (vts : List Ty) (arms : List Arm) (dflt : Bool)
    (dOf : Ty → Nat) (hsum : variantTys scrut.absoluteTy = some vts)
    (htag : scrut.isTaggedUnion = true)
    (hd : ∀ v ∈ vts, taggedUnionDiscrim scrut v = some (some (dOf v)))
    (hinj : ∀ v ∈ vts, ∀ w ∈ vts, dOf v = dOf w → v = w) (hlt : ∀ v ∈ vts, dOf v < 256)
    (hall : ∀ a ∈ arms, (names (isEnum scrut) vts a).isSome)
    (hnd : (arms.map (names (isEnum scrut) vts)).Nodup) :
    compileSwitch true scrut arms dflt =
      some (.table ((arms.map (armDiscr (isEnum scrut) vts dOf)).zipIdx 0) dflt) := by
  -- Cranelift `Switch::set_entry`: no key twice
  have hkeys_nd : (arms.map (armDiscr (isEnum scrut) vts dOf)).Nodup := by
    refine List.pairwise_map.2 ((List.pairwise_map.1 hnd).imp_of_mem ?_)
    intro a b ha hb hne hab
    obtain ⟨w, hw, hn, hk⟩ := armDiscr_of_isSome dOf (hall a ha)
    obtain ⟨u, hu, hn', hk'⟩ := armDiscr_of_isSome dOf (hall b hb)
    exact hne (by rw [hn, hn', hinj w hw u hu (hk ▸ hk' ▸ hab)])
  -- `Switch::emit` on the `i8` index: every key fits
  have hsmall : ((arms.map (armDiscr (isEnum scrut) vts dOf)).zipIdx 0).any
      (fun e => decide (e.1 > 255)) = false := by
    refine List.any_eq_false.2 fun ⟨d, j⟩ hm => ?_
    have hd : d ∈ arms.map (armDiscr (isEnum scrut) vts dOf) :=
      List.mem_of_getElem? (List.mk_mem_zipIdx_iff_getElem?.1 hm)
    obtain ⟨a, ha, rfl⟩ := List.mem_map.1 hd
    obtain ⟨w, hw, _, hk⟩ := armDiscr_of_isSome dOf (hall a ha)
    have := hlt w hw
    simp only [hk, decide_eq_true_eq]
    omega
  simp only [compileSwitch, htag, if_true, tableEntries_eq scrut vts dOf hsum hd arms hall,
    List.zipIdx_map_fst, hkeys_nd, decide_true, Bool.not_true, Bool.false_eq_true, if_false,
    Bool.false_and, hsmall]

end CapyV.Switch
